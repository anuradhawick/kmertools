import KtVerif.Spec.Cli
import KtVerif.Spec.EndToEnd
import KtVerif.Spec.Fasta
import KtVerif.Spec.Kmer
import KtVerif.Spec.Minimiser
import KtVerif.Spec.Vectors
import KtVerif.Model.Display
import KtVerif.Model.Fasta
import KtVerif.Model.Float
import KtVerif.Model.Kmer
import KtVerif.Model.MinOut
import KtVerif.Model.Minimiser
import KtVerif.Model.Py
import KtVerif.Model.RowParse
import KtVerif.Model.Sched
import KtVerif.Model.Vectors
import KtVerif.Proofs.Canon
import KtVerif.Proofs.CanonCount
import KtVerif.Proofs.Cgr
import KtVerif.Proofs.CgrExact
import KtVerif.Proofs.CgrF64
import KtVerif.Proofs.CgrF64Bounds
import KtVerif.Proofs.CliDecide
import KtVerif.Proofs.CliFS
import KtVerif.Proofs.CountChunk
import KtVerif.Proofs.CountMerge
import KtVerif.Proofs.Display
import KtVerif.Proofs.E2E
import KtVerif.Proofs.FastaFormat
import KtVerif.Proofs.FastaLines
import KtVerif.Proofs.FastaParse
import KtVerif.Proofs.Float
import KtVerif.Proofs.FloatDiv
import KtVerif.Proofs.KMinLedger
import KtVerif.Proofs.KMinSim
import KtVerif.Proofs.Kmer
import KtVerif.Proofs.KmerSpec
import KtVerif.Proofs.MinOut
import KtVerif.Proofs.KmerRegs
import KtVerif.Proofs.MinimiserLeftMin
import KtVerif.Proofs.MinimiserNaive
import KtVerif.Proofs.MinimiserSim
import KtVerif.Proofs.MinimiserWindow
import KtVerif.Proofs.OptionMapM
import KtVerif.Proofs.PyBind
import KtVerif.Proofs.RowParse
import KtVerif.Proofs.RunDecomp
import KtVerif.Proofs.RunDecompSpec
import KtVerif.Proofs.SchedBatch
import KtVerif.Proofs.SchedInv
import KtVerif.Proofs.SchedMin
import KtVerif.Proofs.SchedMmap
import KtVerif.Proofs.VecAccum
import KtVerif.Proofs.VecCgr
import KtVerif.Proofs.VecOligo
import KtVerif.Props.C01
import KtVerif.Props.C02
import KtVerif.Props.C03
import KtVerif.Props.C04
import KtVerif.Props.C05
import KtVerif.Props.C06
import KtVerif.Props.C07
import KtVerif.Props.C08
import KtVerif.Props.C09
import KtVerif.Props.C09b
import KtVerif.Props.C10
import KtVerif.Props.C10sched
import KtVerif.Props.C11
import KtVerif.Props.C12
import KtVerif.Props.C13
import KtVerif.Props.C14
import KtVerif.Props.C15
import KtVerif.Props.C16
import KtVerif.Props.C17
import KtVerif.Props.C18
import KtVerif.Props.Display
import KtVerif.Props.E2E
import KtVerif.Props.E2E2
import KtVerif.Props.FloatLemmas
import KtVerif.Props.RowParse
import KtVerif.Tie.Cli
import KtVerif.Tie.Misc
import KtVerif.Tie.Tables
import KtVerif.Driver
import KtVerif.DriverSched
