import KtVerif.Model.Py
import KtVerif.Proofs.PyBind
import KtVerif.Proofs.OptionMapM
/-!
# C13: the Python bindings agree with the core

The bindings duplicate the oligo accumulation loop and the CGR loop (`Model/Py.lean` transcribes
them separately from `Model/Vectors.lean`).  Helpers are in `KtVerif/Proofs/PyBind.lean` (namespace `KT.Py`).
-/
namespace KT

/-- the binding's oligo loop computes exactly what the core's loop computes (same counts, same normalisation) -/
theorem pyOligoVec_eq_core (pm : PosMaps) (k : Nat) (norm : Bool) (bytes : List Nat) :
    pyOligoVec pm k norm bytes = oligoVec pm k norm bytes := by
  unfold pyOligoVec oligoVec oligoCounts normalise
  rw [Py.pyOligoLoop_eq_accum]

theorem pyHeader_eq_core (k : Nat) : pyHeader (kmerPosMaps k) k = header k := rfl

/-- the binding's CGR loop = the core's: same points, and ValueError exactly when the core returns Err -/
theorem pyCgr_eq_core (S : Nat) (bytes : List Nat) : pyCgr S bytes = cgrF64 S bytes := by
  unfold pyCgr cgrF64
  rw [Py.pyCgrLoop_eq]
  generalize cgrLoop S (cgrCentre S) bytes = o
  cases o with
  | none => rfl
  | some l => show some ([].reverse ++ l) = some l; rw [List.reverse_nil, List.nil_append]

theorem utf8Char_ascii (c : Nat) (h : c < 128) : utf8Char c = [c] := by
  unfold utf8Char; rw [if_pos h]

theorem utf8_ascii (cs : List Nat) (h : ∀ c ∈ cs, c < 128) : utf8 cs = cs := by
  unfold utf8
  induction cs with
  | nil => rfl
  | cons c cs ih =>
    rw [List.flatMap_cons, utf8Char_ascii c (h c (List.mem_cons_self ..)),
      ih fun d hd => h d (List.mem_cons_of_mem _ hd)]
    rfl

example : utf8Char 65 = [65] := by decide +kernel
example : utf8Char 233 = [195, 169] := by decide +kernel
example : utf8Char 8364 = [226, 130, 172] := by decide +kernel
example : utf8Char 128512 = [240, 159, 152, 128] := by decide +kernel
example : utf8Char 1114111 = [244, 143, 191, 191] := by decide +kernel
example : utf8 [65, 233, 67] = [65, 195, 169, 67] := by decide +kernel
example : utf8 [65, 67, 71, 84] = [65, 67, 71, 84] := by decide +kernel

/-- every byte of the encoding of a non-ASCII character is ≥ 0x80, hence ambiguous for the iterators and rejected by the CGR -/
theorem utf8_nonascii_bytes (c : Nat) (h1 : 128 ≤ c) (h2 : c < 1114112) : ∀ b ∈ utf8Char c, 128 ≤ b ∧ b < 256 := by
  unfold utf8Char
  rw [if_neg (Nat.not_lt.mpr h1)]
  simp only [apply_ite (fun l : List Nat => ∀ b ∈ l, 128 ≤ b ∧ b < 256), List.forall_mem_cons, List.not_mem_nil,
    false_imp_iff, implies_true, and_true]
  -- 2, 3, 4 bytes: the marker leaves room for 5, 4, 3 bits (the last case up to 0x10FFFF only)
  split
  · next h => exact ⟨Py.lead_bounds (room := 32) (by decide) (by decide) h, Py.cont_bounds _⟩
  split
  · next h => exact ⟨Py.lead_bounds (room := 16) (by decide) (by decide) h, Py.cont_bounds _, Py.cont_bounds _⟩
  · exact ⟨Py.lead_bounds (room := 5) (by decide) (by decide) (Nat.lt_trans h2 (by decide)),
      Py.cont_bounds _, Py.cont_bounds _, Py.cont_bounds _⟩

theorem high_byte_ambiguous (b : Nat) (h : 128 ≤ b) : nt4 b = 4 ∧ clean b = false ∧ cgrCorner b = none :=
  ⟨Py.nt4_high b h, by unfold clean; rw [Py.nt4_high b h]; rfl, Py.cgrCorner_high b h⟩

theorem utf8_nonascii_ambiguous (c : Nat) (h1 : 128 ≤ c) (h2 : c < 1114112) :
    ∀ b ∈ utf8Char c, nt4 b = 4 ∧ cgrCorner b = none := fun b hb =>
  have hb' := (utf8_nonascii_bytes c h1 h2 b hb).1
  ⟨Py.nt4_high b hb', Py.cgrCorner_high b hb'⟩

example : (utf8Char 233).map nt4 = [4, 4] ∧ (utf8Char 233).map cgrCorner = [none, none] := by decide +kernel
example : (utf8 [65, 233, 67]).map nt4 = [0, 4, 4, 1] := by decide +kernel

/-- batch calls return the per-sequence results in argument order -/
theorem pyOligoBatch_is_map (pm : PosMaps) (k : Nat) (norm : Bool) (seqs : List (List Nat)) :
    pyOligoBatch pm k norm seqs = seqs.map (oligoVec pm k norm) ∧ (pyOligoBatch pm k norm seqs).length = seqs.length := by
  unfold pyOligoBatch
  rw [show pyOligoVec pm k norm = oligoVec pm k norm from funext (pyOligoVec_eq_core pm k norm)]
  exact ⟨rfl, List.length_map _⟩

theorem pyCgrBatch_some_iff (S : Nat) (seqs : List (List Nat)) (rows : List (List (Nat × Nat))) :
    pyCgrBatch S seqs = some rows ↔ (rows.length = seqs.length ∧ ∀ i (h : i < seqs.length), cgrF64 S seqs[i] = rows[i]?) := by
  unfold pyCgrBatch
  rw [show pyCgr S = cgrF64 S from funext (pyCgr_eq_core S), mapM_eq_some]
  -- `seqs.map (cgrF64 S) = rows.map some`, index by index
  constructor
  · intro h
    have hl : rows.length = seqs.length := by
      rw [← List.length_map (as := rows), ← h, List.length_map]
    refine ⟨hl, fun i hi => ?_⟩
    have := List.getElem_of_eq h (by rw [List.length_map]; exact hi)
    rw [List.getElem_map, List.getElem_map] at this
    rw [this, List.getElem?_eq_getElem (hl ▸ hi)]
  · rintro ⟨hl, h⟩
    apply List.ext_getElem (by rw [List.length_map, List.length_map, hl])
    intro i h1 h2
    rw [List.length_map] at h1 h2
    rw [List.getElem_map, List.getElem_map, h i h1, List.getElem?_eq_getElem h2]

theorem pyCgrBatch_none_iff (S : Nat) (seqs : List (List Nat)) :
    pyCgrBatch S seqs = none ↔ ∃ s ∈ seqs, cgrF64 S s = none := by
  unfold pyCgrBatch
  rw [show pyCgr S = cgrF64 S from funext (pyCgr_eq_core S)]
  exact mapM_eq_none (cgrF64 S) seqs

end KT
