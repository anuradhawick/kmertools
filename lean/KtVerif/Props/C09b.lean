import KtVerif.Props.C09
import KtVerif.Proofs.RunDecompSpec
/-!
# C09 (declarative form): the minimiser runs are THE run decomposition of the sequence

`IsRunDecomposition w m s out` (`Spec/Minimiser.lean`) says in words what C09 asks: runs listed
left to right, each a non-empty range of valid windows with one minimiser, not extendable, and
every valid window covered.  It is `Runs.Good` at `g = winMin w m s` (`Proofs/RunDecompSpec`),
which `groupRuns` establishes and which determines the list for any `g` (`Proofs/RunDecomp`).
-/
namespace KT
open KT.Runs

/-- the executable grouping satisfies the declarative characterisation of C09 -/
theorem specRuns_isRunDecomposition (w m : Nat) (s : List Nat) (hw : 1 ≤ w) :
    IsRunDecomposition w m s (specRuns w m s) :=
  isRunDecomposition_iff.2 (specRuns_good w m s hw)

/-- … and the characterisation determines the output uniquely -/
theorem isRunDecomposition_unique (w m : Nat) (s : List Nat) (hw : 1 ≤ w) (a b : List (Nat × Nat × Nat))
    (ha : IsRunDecomposition w m s a) (hb : IsRunDecomposition w m s b) : a = b :=
  have _ := hw  -- also holds for w = 0
  (isRunDecomposition_iff.1 ha).unique (isRunDecomposition_iff.1 hb)

/-- hence the iterator's output is THE run decomposition -/
theorem minimisers_isRunDecomposition (w m : Nat) (s : List Nat) (hm1 : 1 ≤ m) (hmw : m ≤ w) (hm : m ≤ 31) :
    IsRunDecomposition w m s (minimisers w m s) := by
  rw [minimisers_eq_specRuns w m s hm1 hmw hm]
  exact specRuns_isRunDecomposition w m s (by omega)

/-- runs never cross an ambiguous byte: every byte inside a run is clean -/
theorem specRuns_clean (w m : Nat) (s : List Nat) (hw : 1 ≤ w) :
    ∀ r ∈ specRuns w m s, ∀ j, r.2.1 ≤ j → j < r.2.2 → clean (s.getD j 0) = true := by
  intro r hr j h1 h2
  obtain ⟨-, hne, hall, -⟩ := (specRuns_good w m s hw).ok r hr
  -- a window of the run that contains byte `j`
  obtain ⟨i, a, b, c, d⟩ : ∃ i, r.2.1 ≤ i ∧ i + w ≤ r.2.2 ∧ i ≤ j ∧ j < i + w :=
    ⟨min j (r.2.2 - w), by omega⟩
  exact (winMin_clean (hall i a b)).2 j c d

/-- every full valid window, including the last one of the sequence, lies in exactly one run -/
theorem specRuns_cover_unique (w m : Nat) (s : List Nat) (hw : 1 ≤ w) (i v : Nat) (h : winMin w m s i = some v) :
    ∃ r ∈ specRuns w m s, r.1 = v ∧ r.2.1 ≤ i ∧ i + w ≤ r.2.2 ∧
      ∀ r' ∈ specRuns w m s, r'.2.1 ≤ i → i + w ≤ r'.2.2 → r' = r := by
  have hg := specRuns_good w m s hw
  obtain ⟨r, hr, hv, h1, h2⟩ := hg.cover i v (Nat.zero_le _) h
  refine ⟨r, hr, hv, h1, h2, ?_⟩
  intro r' hr' h1' h2'
  exact runOK_eq_of_common (hg.ok r' hr').2 (hg.ok r hr).2 ⟨h1', h2'⟩ ⟨h1, h2⟩

/-! ## non-vacuity -/

-- "ACGTNACGTTA", w = 3, m = 2: three runs, the ambiguous byte at 4 separates the first two,
-- the last run ends at |s| = 11 (covers the last window)
example : specRuns 3 2 [65,67,71,84,78,65,67,71,84,84,65] = [(1,0,4),(1,5,9),(0,7,11)] := by decide +kernel
example : winMin 3 2 [65,67,71,84,78,65,67,71,84,84,65] 8 = some 0 := by decide +kernel
example : winMin 3 2 [65,67,71,84,78,65,67,71,84,84,65] 9 = none := by decide +kernel
example : winMin 3 2 [65,67,71,84,78,65,67,71,84,84,65] 2 = none := by decide +kernel
example : clean 78 = false := by decide +kernel
-- the hypotheses of `minimisers_isRunDecomposition` are satisfiable and the output is non-empty
example : minimisers 3 2 [65,67,71,84,78,65,67,71,84,84,65] ≠ [] := by decide +kernel
-- adjacent runs with the same value separated by one invalid window are *not* merged
example : specRuns 1 1 [65,78,65] = [(0,0,1),(0,2,3)] := by decide +kernel
-- the characterisation rejects wrong outputs: a non-maximal split of "AA" (w = m = 1)
example : specRuns 1 1 [65,65] = [(0,0,2)] := by decide +kernel
example : ¬ IsRunDecomposition 1 1 [65,65] [(0,0,1),(0,1,2)] := by
  intro h
  have := (h.maximal (0,0,1) (by simp)).2
  exact this (by decide)
-- … and an output missing a window
example : ¬ IsRunDecomposition 1 1 [65,65] [] := by
  intro h
  obtain ⟨r, hr, _⟩ := h.cover 0 0 (by decide)
  cases hr

end KT
