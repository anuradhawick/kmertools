import KtVerif.Spec.EndToEnd
import KtVerif.Proofs.E2E
import KtVerif.Props.C06
import KtVerif.Proofs.CgrF64Bounds
/-!
# End to end: coverage vectors, the two containers, the binary64 chaos game

`cov_end_to_end` (C08) and `containers_agree` (C05) compose earlier theorems; the C11 theorems say what still holds of the
binary64 walk where it is no longer the exact walk (`KtVerif/Proofs/CgrF64Bounds.lean`).
-/
namespace KT

/-- reading the counts table back gives the true multiplicity of every k-mer -/
theorem cntOfTable_eq (tbl : List (Nat × Nat)) (l : List Nat) (h : IsTableOf tbl l) (x : Nat) :
    cntOfTable tbl x = countOcc x l := by
  unfold cntOfTable
  cases hf : tbl.find? (fun p => p.1 == x) with
  | none =>
    -- no line with key `x`, so `x` does not occur
    have hnk : x ∉ tbl.map (·.1) := fun hm => by
      obtain ⟨p, hp, rfl⟩ := List.mem_map.mp hm
      simpa using List.find?_eq_none.mp hf p hp
    rw [countOcc_eq_count, List.count_eq_zero.mpr fun hx => hnk (h.2.2 x hx)]
  | some p =>
    obtain rfl : p.1 = x := by simpa using List.find?_some hf
    exact (h.2.1 _ _ (List.mem_of_find?_eq_some hf)).1

example : cntOfTable [(7, 5), (3, 1)] 7 = 5 ∧ cntOfTable [(7, 5), (3, 1)] 3 = 1 ∧ cntOfTable [(7, 5), (3, 1)] 4 = 0 := by
  decide +kernel

/-- C08 end to end: for any batch limit, the vectors file computed from the merged table of the counting input is the
    specified file (u32 multiplicities, bin size below 2^32) -/
theorem cov_end_to_end (k binSize binCount limit : Nat) (norm : Bool) (delim : List Nat)
    (countingRecs recs : List (List Nat)) (tbl : List (Nat × Nat))
    (hk1 : 1 ≤ k) (hk : k ≤ 31) (hbs1 : 1 ≤ binSize) (hbs : binSize < 2 ^ 32) (hbc : 1 ≤ binCount)
    (htbl : IsTableOf tbl (allCanons k countingRecs)) (hu32 : ∀ x, countsOf k countingRecs x < 2 ^ 32) :
    batchOutput limit List.length (covRowText k binSize binCount (cntOfTable tbl) norm delim) recs =
      covFileSpec k binSize binCount norm delim countingRecs recs := by
  have hcnt : cntOfTable tbl = countsOf k countingRecs :=
    funext fun x => cntOfTable_eq tbl (allCanons k countingRecs) htbl x
  rw [batchOutput_eq, hcnt]
  unfold covFileSpec
  exact congrArg List.flatten (List.map_congr_left fun s _ =>
    E2E.covRowText_eq_spec k binSize binCount _ norm delim s hk1 hk hbs1 hbs hbc hu32)

/-- C05: the same records give the same rows whether they arrive as FASTA (any wrapping, LF/CRLF) or as FASTQ -/
theorem containers_agree (cfgA cfgQ : SerCfg) (recs : List SrcRec) (hA : wfCfg cfgA = true) (hQ : wfCfg cfgQ = true)
    (hwfA : ∀ r ∈ recs, wfFasta r = true) (hwfQ : ∀ r ∈ recs, wfFastq r = true) :
    (readAll .fasta (serialiseFasta cfgA recs)).1.map (fun r => r.seq) =
      (readAll .fastq (serialiseFastq cfgQ recs)).1.map (fun r => r.seq) ∧
    (readAll .fasta (serialiseFasta cfgA recs)).1.map (fun r => r.n) =
      (readAll .fastq (serialiseFastq cfgQ recs)).1.map (fun r => r.n) := by
  rw [fasta_roundtrip cfgA recs hA hwfA, fastq_roundtrip cfgQ recs hQ hwfQ]
  exact ⟨rfl, rfl⟩

/-- C11: every point of the double-precision walk lies in the square [0, S] (any length, any S ≥ 1 below 2^52).
    The bounds in this and the next statements are not tight: the `Fl` lemmas they instantiate hold with 2^53, 53 and
    1074 in place of 2^52, 52 and 1073, and for S = 0. -/
theorem cgrF64_in_square (S : Nat) (s : List Nat) (l : List (Nat × Nat)) (hS : 1 ≤ S) (hS2 : S < 2 ^ 52)
    (h : cgrF64 S s = some l) : ∀ p ∈ l, p.1 ≤ S * f64One ∧ p.2 ≤ S * f64One := by
  have _ := hS
  exact Fl.f64OfNat_exact S (Nat.lt_trans hS2 (by decide)) ▸ Fl.cgrF64_in_square S s l h

/-- C11: sub-square containment of the double-precision walk, beyond the exactly representable range: after a prefix `p`
    and `j` further bases `q` (with `bitLen S + j ≤ 52`), the last point lies in the sub-square determined by `q` alone -/
theorem cgrF64_subsquare (S : Nat) (p q : List Nat) (l : List (Nat × Nat)) (hS : 1 ≤ S)
    (hj : bitLen S + q.length ≤ 52) (hq : q ≠ []) (h : cgrF64 S (p ++ q) = some l) :
    let cx := (q.reverse.map fun b => ((cornerSpec b).getD (0, 0)).1)
    let cy := (q.reverse.map fun b => ((cornerSpec b).getD (0, 0)).2)
    let a := l.getLastD (0, 0)
    subsquareLo S cx ≤ a.1 ∧ a.1 ≤ subsquareLo S cx + S * f64One / 2 ^ q.length ∧
    subsquareLo S cy ≤ a.2 ∧ a.2 ≤ subsquareLo S cy + S * f64One / 2 ^ q.length := by
  have _ := hS
  obtain ⟨st, hst, ha⟩ := Fl.cgrF64_last S p q l hq h
  have hlen : (q.map Fl.corner).length = q.length := List.length_map _
  have := Fl.foldl_stepF_subsquare S _ (Fl.corners_le_one q) (hlen ▸ Nat.le_succ_of_le hj) st hst
  rw [← ha, hlen, List.map_map, List.map_map, ← List.map_reverse, ← List.map_reverse] at this
  exact this

/-- one step towards the corner coordinate 0 halves the bound `S·2^(1074-z)` exactly -/
theorem cgrMid_zero_step (S v z : Nat) (hS : S < 2 ^ 53) (hz : z ≤ 1073) (hv : v * 2 ^ z ≤ S * f64One) :
    cgrMid 0 v * 2 ^ (z + 1) ≤ S * f64One := by
  obtain ⟨k, hk⟩ : ∃ k, z + 1 + k = 1074 := ⟨1073 - z, by omega⟩
  rw [Fl.f64One_split (i := z) (k := k + 1) (by omega), Nat.mul_left_comm, Nat.mul_comm v] at hv
  have h := Fl.cgrMid_zero_le hS (Nat.le_of_mul_le_mul_left hv (Nat.two_pow_pos z))
  rw [Fl.f64One_split hk, Nat.mul_left_comm, Nat.mul_comm _ (2 ^ (z + 1))]
  exact Nat.mul_le_mul_left _ h

/-- C11: after a prefix `p` and `z ≤ 1073` further bases `q` whose corner has x-coordinate 0 (A, C, a, c), the x-coordinate of the
last point is at most `S / 2^z` — at any run length, also where the exact walk is no longer representable -/
theorem cgrF64_zero_run_x (S : Nat) (p q : List Nat) (l : List (Nat × Nat)) (hS : 1 ≤ S) (hS2 : S < 2 ^ 52)
    (hz : q.length ≤ 1073) (hq : q ≠ []) (hc : ∀ b ∈ q, ((cornerSpec b).getD (0, 0)).1 = 0)
    (h : cgrF64 S (p ++ q) = some l) :
    (l.getLastD (0, 0)).1 * 2 ^ q.length ≤ S * f64One := by
  have _ := hS
  exact (Fl.cgrF64_zero_run S p q l (Nat.lt_trans hS2 (by decide)) (Nat.le_succ_of_le hz) hq h).1 hc

/-- the same for y (corner y-coordinate 0: A, T, U, a, t, u) -/
theorem cgrF64_zero_run_y (S : Nat) (p q : List Nat) (l : List (Nat × Nat)) (hS : 1 ≤ S) (hS2 : S < 2 ^ 52)
    (hz : q.length ≤ 1073) (hq : q ≠ []) (hc : ∀ b ∈ q, ((cornerSpec b).getD (0, 0)).2 = 0)
    (h : cgrF64 S (p ++ q) = some l) :
    (l.getLastD (0, 0)).2 * 2 ^ q.length ≤ S * f64One := by
  have _ := hS
  exact (Fl.cgrF64_zero_run S p q l (Nat.lt_trans hS2 (by decide)) (Nat.le_succ_of_le hz) hq h).2 hc

-- non-vacuity of the corner hypotheses: A, C, a, c have corner x-coordinate 0; A, T, U, t have corner y-coordinate 0
example : ∀ b ∈ [65, 67, 97, 99], ((cornerSpec b).getD (0, 0)).1 = 0 := by decide +kernel
example : ∀ b ∈ [65, 84, 85, 116], ((cornerSpec b).getD (0, 0)).2 = 0 := by decide +kernel

/-! ### non-vacuity -/

-- corner bits most recent first: "…GA" with S = 8 confines x and y to [2, 4]; "…AG" to [4, 6]
example : subsquareLo 8 [0, 1] = 2 * f64One ∧ subsquareLo 8 [1, 0] = 4 * f64One ∧ 8 * f64One / 2 ^ 2 = 2 * f64One := by
  decide +kernel
-- S = 2^45 - 1: after 8 G's the double-precision walk has left the exact walk (see C11); 7 further G's still
-- confine the last point to the sub-square [S - S/2^7, S] of the theorem (45 + 7 = 52)
example : bitLen (2 ^ 45 - 1) + [71,71,71,71,71,71,71].length = 52 := by decide +kernel
example :
    (cgrF64 (2 ^ 45 - 1) ([71,71,71,71,71,71,71,71] ++ [71,71,71,71,71,71,71])).map (fun l =>
      decide (subsquareLo (2 ^ 45 - 1) [1,1,1,1,1,1,1] ≤ (l.getLastD (0, 0)).1 ∧
        (l.getLastD (0, 0)).1 ≤ subsquareLo (2 ^ 45 - 1) [1,1,1,1,1,1,1] + (2 ^ 45 - 1) * f64One / 2 ^ 7 ∧
        (l.getLastD (0, 0)).1 ≤ (2 ^ 45 - 1) * f64One)) = some true := by
  decide +kernel

end KT
