import KtVerif.Spec.Vectors
import KtVerif.Model.Vectors
import KtVerif.Proofs.Cgr
import KtVerif.Proofs.CgrExact
import KtVerif.Proofs.CgrF64
/-!
# C11: whole-sequence chaos game representation (`CgrComputer::vectorise_one`)

`cgrF64` (model) and `cgrExact` (specification) are both a `Fl.walk` (`KtVerif/Proofs/Cgr.lean`), and each theorem here is
the corresponding fact about `walk`, or is taken from `KtVerif/Proofs/CgrExact.lean`, `CgrF64.lean`.  Exact points are
`(X, Y, e)` meaning `(X / 2^e, Y / 2^e)`; `(a - b)` on `Nat` is truncated, so each pair of inequalities below is an
absolute-value bound.
-/
namespace KT

/-! ## corners and rejection -/

theorem cgrCorner_eq_spec (b : Nat) : cgrCorner b = cornerSpec b := Fl.cgrCorner_eq_spec b

theorem cornerSpec_isSome_iff (b : Nat) : (cornerSpec b).isSome = true ↔ isNucLetter b = true := by
  rw [Fl.cornerSpec_isSome]

theorem cgrExact_none_iff (S : Nat) (s : List Nat) : cgrExact S s = none ↔ ∃ b ∈ s, isNucLetter b = false :=
  Fl.cgrExact_eq_walk S s ▸ Fl.walk_eq_none_iff _ _ s

theorem cgrF64_none_iff (S : Nat) (s : List Nat) : cgrF64 S s = none ↔ ∃ b ∈ s, isNucLetter b = false :=
  Fl.cgrF64_eq_walk S s ▸ Fl.walk_eq_none_iff _ _ s

/-! ## shape -/

theorem cgrExact_length (S : Nat) (s : List Nat) (l : List (Nat × Nat × Nat)) (h : cgrExact S s = some l) : l.length = s.length :=
  Fl.walk_length _ (Fl.cgrExact_eq_walk S s ▸ h)

theorem cgrF64_length (S : Nat) (s : List Nat) (l : List (Nat × Nat)) (h : cgrF64 S s = some l) : l.length = s.length :=
  Fl.walk_length _ (Fl.cgrF64_eq_walk S s ▸ h)

/-- point i depends only on the first i bases -/
theorem cgrExact_prefix (S : Nat) (s t : List Nat) (l : List (Nat × Nat × Nat)) (h : cgrExact S (s ++ t) = some l) :
    cgrExact S s = some (l.take s.length) :=
  Fl.cgrExact_eq_walk S s ▸ Fl.walk_prefix _ (Fl.cgrExact_eq_walk S (s ++ t) ▸ h)

theorem cgrF64_prefix (S : Nat) (s t : List Nat) (l : List (Nat × Nat)) (h : cgrF64 S (s ++ t) = some l) :
    cgrF64 S s = some (l.take s.length) :=
  Fl.cgrF64_eq_walk S s ▸ Fl.walk_prefix _ (Fl.cgrF64_eq_walk S (s ++ t) ▸ h)

/-! ## geometry of the exact walk -/

/-- midpoint rule of the exact spec: numerators over 2^(i+2) after base i (0-based), previous numerators over 2^(i+1) -/
theorem cgrExact_midpoint (S : Nat) (s : List Nat) (b : Nat) (l : List (Nat × Nat × Nat)) (cx cy : Nat)
    (h : cgrExact S (s ++ [b]) = some l) (hb : cornerSpec b = some (cx, cy)) :
    let prev := (l.take s.length).getLastD (S, S, 1)
    l.getLast? = some (cx * S * 2 ^ prev.2.2 + prev.1, cy * S * 2 ^ prev.2.2 + prev.2.1, prev.2.2 + 1) := by
  rw [Fl.cgrExact_eq_walk] at h
  have hc : Fl.corner b = (cx, cy) := by unfold Fl.corner; rw [hb]; rfl
  intro prev
  have hp : prev = (s.map Fl.corner).foldl (Fl.stepE S) (S, S, 1) := by
    show (l.take s.length).getLastD _ = _
    rw [Fl.walk_eq_some _ (Fl.walk_prefix _ h), Fl.getLastD_trail]
  rw [Fl.walk_eq_some _ h, List.map_append, Fl.trail_append, hp, List.map_singleton, hc]
  exact List.getLast?_concat ..

/-- every exact point lies in the square: 0 ≤ X ≤ S·2^e -/
theorem cgrExact_in_square (S : Nat) (s : List Nat) (l : List (Nat × Nat × Nat)) (h : cgrExact S s = some l) :
    ∀ p ∈ l, p.1 ≤ S * 2 ^ p.2.2 ∧ p.2.1 ≤ S * 2 ^ p.2.2 :=
  Fl.walk_forall _ (Fl.stepE_inSquare S) (Fl.start_inSquare S) (Fl.cgrExact_eq_walk S s ▸ h)

/-- the last j bases confine the point to a sub-square of side S/2^j: two walks that end in the same j bases end within S/2^j of each other (per coordinate) -/
theorem cgrExact_subsquare (S : Nat) (p p' q : List Nat) (l l' : List (Nat × Nat × Nat))
    (h : cgrExact S (p ++ q) = some l) (h' : cgrExact S (p' ++ q) = some l') (hq : q ≠ []) :
    let a := l.getLastD (0,0,0); let a' := l'.getLastD (0,0,0)
    (a.1 * 2 ^ a'.2.2 - a'.1 * 2 ^ a.2.2) * 2 ^ q.length ≤ S * 2 ^ (a.2.2 + a'.2.2) ∧
    (a'.1 * 2 ^ a.2.2 - a.1 * 2 ^ a'.2.2) * 2 ^ q.length ≤ S * 2 ^ (a.2.2 + a'.2.2) ∧
    (a.2.1 * 2 ^ a'.2.2 - a'.2.1 * 2 ^ a.2.2) * 2 ^ q.length ≤ S * 2 ^ (a.2.2 + a'.2.2) ∧
    (a'.2.1 * 2 ^ a.2.2 - a.2.1 * 2 ^ a'.2.2) * 2 ^ q.length ≤ S * 2 ^ (a.2.2 + a'.2.2) :=
  Fl.cgrExact_subsquare S p p' q l l' h h' hq

/-! ## the double-precision walk -/

/-- while the dyadic values fit in 53 bits the double-precision walk IS the exact walk -/
theorem cgrF64_exact (S : Nat) (s : List Nat) (hS : 1 ≤ S) (hbits : bitLen S + s.length + 1 ≤ 53) :
    cgrF64 S s = (cgrExact S s).map fun l => l.map fun p => (p.1 * f64One / 2 ^ p.2.2, p.2.1 * f64One / 2 ^ p.2.2) := by
  have _ := hS
  exact Fl.cgrF64_exact S s hbits

/-! ## non-vacuity -/

example : cgrExact 2 [65, 67] = some [(2, 2, 2), (2, 10, 3)] := by decide +kernel
example : cgrExact 3 [65, 67, 71] = some [(3, 3, 2), (3, 15, 3), (27, 39, 4)] := by decide +kernel
example : cgrExact 2 [65, 78, 67] = none := by decide +kernel
example : cgrCorner 117 = some (1, 0) ∧ cornerSpec 84 = some (1, 0) ∧ cornerSpec 78 = none := by decide +kernel
-- S = 8, "ac": points (2, 2) and (1, 5); bit patterns of 2.0, 2.0, 1.0, 5.0
example : (cgrF64 8 [97, 99]).map (fun l => l.map fun p => (f64Bits p.1, f64Bits p.2)) =
    some [(4611686018427387904, 4611686018427387904), (4607182418800017408, 4617315517961601024)] := by
  decide +kernel
example : cgrF64 8 [65, 42] = none := by decide +kernel
-- the hypothesis of `cgrF64_exact` is tight: 2^45 - 1 has 45 bits, 7 bases fit (45 + 7 + 1 = 53) …
example : bitLen (2 ^ 45 - 1) + [71,71,71,71,71,71,71].length + 1 = 53 := by decide +kernel
-- … and with an 8th base the double-precision walk leaves the exact walk
example : cgrF64 (2 ^ 45 - 1) [71,71,71,71,71,71,71,71] ≠
    (cgrExact (2 ^ 45 - 1) [71,71,71,71,71,71,71,71]).map fun l => l.map fun p =>
      (p.1 * f64One / 2 ^ p.2.2, p.2.1 * f64One / 2 ^ p.2.2) := by decide +kernel

end KT
