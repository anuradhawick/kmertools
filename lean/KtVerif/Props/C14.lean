import KtVerif.Model.Sched
import KtVerif.Proofs.SchedMmap
import KtVerif.Props.C05
/-!
# C14: the positional writes of the memory-mapped path stay inside the mapping, never overlap,
tile the whole body, and the size the mapping is created with is exactly the size of the rows
-/
namespace KT

theorem mmap_write_in_bounds (hdrLen L N n : Nat) (hn : n < N) : writePos hdrLen L n + L ≤ N * L + hdrLen :=
  -- `N * L + hdrLen` is `writePos hdrLen L N` with the factors swapped
  Nat.mul_comm N L ▸ Sch.writePos_add_le hdrLen L hn

theorem mmap_writes_disjoint (hdrLen L i j : Nat) (hij : i ≠ j) :
    writePos hdrLen L i + L ≤ writePos hdrLen L j ∨ writePos hdrLen L j + L ≤ writePos hdrLen L i :=
  Sch.writePos_disjoint hdrLen L i j hij

theorem mmap_writes_tile (hdrLen L N p : Nat) (hL : 0 < L) (hp : hdrLen ≤ p) (hp2 : p < N * L + hdrLen) :
    ∃ n, n < N ∧ writePos hdrLen L n ≤ p ∧ p < writePos hdrLen L n + L := by
  -- `p = hdrLen + q`; the record is `q / L`
  obtain ⟨q, rfl⟩ := Nat.exists_eq_add_of_le hp
  have hq : q < N * L := by omega
  have h1 : L * (q / L) ≤ q := Nat.mul_div_le q L
  have h2 : q < L * (q / L) + L := Nat.lt_mul_div_succ q hL
  refine ⟨q / L, (Nat.div_lt_iff_lt_mul hL).mpr hq, ?_, ?_⟩
  · unfold writePos; omega
  · unfold writePos; omega

theorem mmapSize_eq (nrec kcount delimLen hdrLen : Nat) :
    mmapSize nrec kcount delimLen hdrLen = nrec * perLineSize kcount delimLen + hdrLen := rfl

theorem joinBytes_length (sep : List Nat) (cells : List (List Nat)) (w : Nat) (hne : cells ≠ [])
    (hw : ∀ c ∈ cells, c.length = w) : (joinBytes sep cells).length = cells.length * w + (cells.length - 1) * sep.length := by
  induction cells with
  | nil => exact absurd rfl hne
  | cons x xs ih =>
    have hx : x.length = w := hw x List.mem_cons_self
    cases xs with
    | nil => simp [joinBytes, hx]
    | cons y ys =>
      have h2 := ih (by simp) (fun c hc => hw c (List.mem_cons_of_mem _ hc))
      simp only [joinBytes, List.length_append, h2, hx, List.length_cons, Nat.succ_mul,
        Nat.add_sub_cancel]
      omega

/-- a normalised row is exactly as long as the size the mapping was computed with, for ANY delimiter -/
theorem rowText_norm_length (delim : List Nat) (counts : List Nat) (total : Nat) (hne : counts ≠ [])
    (h8 : ∀ c ∈ counts, (fmt6 (f64Div (f64OfNat c) (f64OfNat (max 1 total)))).length = 8) :
    (rowText true delim counts total).length = perLineSize counts.length delim.length := by
  show (joinBytes delim ((counts.map _).map fmt6) ++ [10]).length = _
  rw [List.length_append, joinBytes_length delim _ 8 (by rwa [Ne, List.map_eq_nil_iff, List.map_eq_nil_iff])
      (List.forall_mem_map.2 (List.forall_mem_map.2 h8)),
    List.length_map, List.length_map]
  rfl

/-- no cell is left unwritten and no write is refused: every schedule fills the whole mapping -/
theorem mmap_no_unwritten (T : Nat) (hT : 0 < T) (hdr : List Nat) (rows : List (List Nat)) (L : Nat)
    (hL : ∀ r ∈ rows, r.length = L) (sched : List GStep) (s' : GSys Cells)
    (hr : GSys.run rows.length (mmapEff hdr.length (fun n => rows.getD n []))
            (GSys.init T (mmapInit (rows.length * L + hdr.length) hdr)) sched = some s')
    (ht : s'.terminal = true) :
    s'.sh.length = rows.length * L + hdr.length ∧ ∀ c ∈ s'.sh, c ≠ none := by
  rw [mmap_any_schedule T hT hdr rows L hL sched s' hr ht]
  unfold mmapExpected
  constructor
  · rw [List.length_map, List.length_append, Sch.flatten_length_const rows hL]; omega
  · intro c hc
    obtain ⟨a, _, rfl⟩ := List.mem_map.mp hc
    exact Option.some_ne_none a

theorem partOf_lt (nParts x : Nat) (h : 1 ≤ nParts) : partOf nParts x < nParts :=
  Nat.mod_lt x h

/-! ## non-vacuity -/

example : writePos 5 3 0 = 5 ∧ writePos 5 3 1 = 8 ∧ writePos 5 3 1 + 3 ≤ 2 * 3 + 5 := by decide +kernel
example : perLineSize 4 1 = 36 ∧ perLineSize 1 3 = 9 ∧ perLineSize 4 0 = 33 := by decide +kernel
example : mmapSize 3 4 1 7 = 115 := by decide +kernel
example : joinBytes [9] [[1, 2], [3, 4], [5, 6]] = [1, 2, 9, 3, 4, 9, 5, 6] := by decide +kernel
example : joinBytes [] [[1, 2], [3, 4]] = [1, 2, 3, 4] := by decide +kernel
/-- an out-of-bounds write is refused and leaves the file unchanged (so `mmap_no_unwritten` is not
    trivially true of `blit`) -/
example : blit [none, none, none] 2 [1, 2] = [none, none, none] := by decide +kernel
example : blit [none, none, none] 1 [1, 2] = [none, some 1, some 2] := by decide +kernel
example : partOf 4 10 = 2 := by decide +kernel
/-- a concrete normalised row (counts 1 and 3 of total 4, delimiter ","): "0.250000,0.750000\n" -/
example : rowText true [44] [1, 3] 4 =
    [48, 46, 50, 53, 48, 48, 48, 48, 44, 48, 46, 55, 53, 48, 48, 48, 48, 10] := by decide +kernel
example : (rowText true [44] [1, 3] 4).length = perLineSize 2 1 := by decide +kernel

end KT
