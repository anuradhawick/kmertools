import KtVerif.Model.Fasta
import KtVerif.Model.MinOut
import KtVerif.Model.Sched
import KtVerif.Proofs.CliDecide
import KtVerif.Props.C04
import KtVerif.Props.C05
import KtVerif.Props.C09
import KtVerif.Props.FloatLemmas
/-!
# C16: degenerate inputs (empty stream, empty / short records, records without a valid window)

Accepted commands are total on every record: no out-of-range index, no overflow in a constructor, no
placeholder value in the output, one row per record, and an all-zero (never NaN) normalised row when
a record has no valid window.
-/
namespace KT

/-- an empty stream is zero records in either format (the batched writers fall back to FASTQ) -/
theorem readAll_empty : readAll .fasta [] = ([], ParseStatus.done) ∧ readAll .fastq [] = ([], ParseStatus.done) ∧ sniffFormat [] = none := by
  decide +kernel

/-- a stream that is not empty but holds no record start panics in the reader: "empty" means zero bytes -/
example : readAll .fasta [10] = ([], ParseStatus.panic) := by decide +kernel

/-- accepted oligo / k-mer CGR runs never index out of range, whatever the record -/
theorem oligo_total (k : Nat) (hk : 3 ≤ k ∧ k ≤ 7) (s : List Nat) : oligoSafe (kmerPosMaps k) k s = true :=
  oligo_index_safe k s (Nat.le_trans (by decide) hk.1) (Nat.le_trans hk.2 (by decide))

example : oligoSafe (kmerPosMaps 3) 3 [] = true ∧ oligoSafe (kmerPosMaps 3) 3 [65, 67] = true ∧
    oligoSafe (kmerPosMaps 7) 7 [78, 78, 78, 78, 78, 78, 78, 78] = true :=
  ⟨oligo_total 3 (by decide) _, oligo_total 3 (by decide) _, oligo_total 7 (by decide) _⟩

/-- accepted minimiser runs never panic in the generator constructor, whatever the record (incl. records shorter than m, empty records) -/
theorem min_total (m w : Nat) (hm : 7 ≤ m ∧ m ≤ 28) (hw : w = 0 ∨ m < w) (seq : List Nat) : minOutSafe w m seq = true :=
  Cl.minOutSafe_of (by decide) (by decide) hm hw seq

example : minOutSafe 0 7 [] = true ∧ minOutSafe 0 7 [65, 67, 71] = true ∧ minOutSafe 9 7 [] = true := by decide +kernel
/-- a window shorter than the minimiser (`wsize - msize + 1` would underflow) is what the decision refuses -/
example : minOutSafe 5 7 [65, 67, 71] = false := by decide +kernel

theorem effW_ge (w m : Nat) (seq : List Nat) (hw : w = 0 ∨ m ≤ w) : m ≤ effW w m seq :=
  Cl.effW_ge w m seq hw

example : effW 0 7 [] = 7 ∧ effW 0 3 [65, 67, 71, 84, 65] = 5 ∧ effW 9 7 [65] = 9 := by decide +kernel

/-- no placeholder is ever emitted: every emitted minimiser value is a real m-mer code -/
theorem no_sentinel (m w : Nat) (hm : 1 ≤ m ∧ m ≤ 31) (hw : w = 0 ∨ m ≤ w) (seq : List Nat) :
    ∀ r ∈ minimisers (effW w m seq) m seq, r.1 < 4 ^ m ∧ r.1 ≠ U64MAX := by
  intro r hr
  have hge := effW_ge w m seq hw
  refine ⟨?_, minimisers_no_placeholder _ m seq hm.1 hge hm.2 r hr⟩
  rw [minimisers_eq_specRuns _ m seq hm.1 hge hm.2] at hr
  exact specRuns_val_lt _ m seq hm.1 hge r hr

/-- a record shorter than the minimiser, an empty record, a record of `N` only: no run at all -/
example : minimisers (effW 0 3 [65, 67]) 3 [65, 67] = [] ∧ minimisers (effW 0 3 []) 3 [] = [] ∧
    minimisers (effW 4 3 [78, 78, 78, 78, 78]) 3 [78, 78, 78, 78, 78] = [] := by decide +kernel
example : minimisers (effW 0 2 [65, 67, 71, 84]) 2 [65, 67, 71, 84] = [(1, 0, 4)] := by decide +kernel

/-- one row per record for every batch limit -/
theorem rows_eq_records {α : Type} (limit : Nat) (len : α → Nat) (row : α → List Nat) (recs : List α)
    (hrow : ∀ r, (row r).getLast? = some 10 ∧ (row r).count 10 = 1) :
    (batchOutput limit len row recs).count 10 = recs.length := by
  -- every row contributes one newline (only the second part of `hrow` is used)
  rw [batchOutput_eq, List.count_flatten, List.map_map,
    (List.map_eq_replicate_iff (f := List.count 10 ∘ row)).mpr fun r _ => (hrow r).2, List.sum_replicate_nat,
    Nat.mul_one]

example : (batchOutput 3 List.length (fun r => r ++ [10]) [[], [1, 2, 3], [], [4]]).count 10 = 4 := by decide +kernel
example : (batchOutput 0 List.length (fun r => r ++ [10]) ([] : List (List Nat))).count 10 = 0 := by decide +kernel

/-- a record without valid window gives an all-zero normalised row (never NaN: division by max(1, total)) -/
theorem normalise_zero (n : Nat) : normalise (List.replicate n 0) 0 = List.replicate n 0 := by
  have h1 : max 1 0 = 1 := rfl
  unfold normalise
  rw [List.map_replicate, h1, f64Div_zero 1 (Nat.le_refl 1) (by omega)]

/-- such a record: shorter than k, or no window free of `N` -/
example : oligoRowSpec 3 [65, 67] = List.replicate 32 0 ∧ windowCount 3 [65, 67] = 0 ∧
    oligoRowSpec 3 [65, 67, 78, 71, 84] = List.replicate 32 0 ∧ windowCount 3 [] = 0 := by decide +kernel

end KT
