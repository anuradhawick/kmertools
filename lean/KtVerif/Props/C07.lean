import KtVerif.Proofs.CountChunk
import KtVerif.Proofs.CountMerge
import KtVerif.Proofs.VecAccum
/-!
# C07: k-mer counting — chunk under any schedule, merge of the per-chunk tables, partitions
-/
namespace KT

/-- one chunk, any schedule: the records taken are a contiguous segment starting at the cursor, the
    table holds exactly their k-mers (as a multiset), and a chunk makes progress while records remain -/
theorem chunk_any_schedule (N limit T start : Nat) (kms : Nat → List Nat) (len : Nat → Nat)
    (hT : 0 < T) (hstart : start ≤ N) (sched : List CStep) (s' : CSys)
    (hr : CSys.run N limit kms len (CSys.init T start) sched = some s') (ht : s'.terminal = true) :
    s'.taken = List.range' start (s'.next - start) ∧ start ≤ s'.next ∧ s'.next ≤ N ∧
    s'.table.Perm (s'.taken.flatMap kms) ∧ (start < N → start < s'.next) := by
  have hI := Cnt.inv_run N limit T start kms len _ s' sched (Cnt.inv_init N T start kms hstart) hr
  refine ⟨hI.tk, hI.le1, hI.le2, ?_, fun hlt => ?_⟩
  · have := hI.tb
    rwa [Sch.flatMap_eq_nil_of_all (Cnt.inflight kms) .done rfl ht, List.append_nil] at this
  · -- some worker exists and is done, so the state is not quiet
    obtain ⟨a, ha⟩ := List.exists_mem_of_length_pos (hI.len ▸ hT)
    have hd : a = CState.done := eq_of_beq (List.all_eq_true.mp ht a ha)
    rcases hI.prog with q | h | h
    · exact absurd (q.2 a ha) (by simp [hd])
    · exact h
    · exact h ▸ hlt

/-! ### non-vacuity: 2 workers, 3 records, limit 1 — the chunk stops after records 0 and 1 -/

/-- observable projection of a state (`CSys` has no `DecidableEq`) -/
def CSys.view (s : CSys) : Nat × Nat × List CState × List Nat × List Nat :=
  (s.next, s.soFar, s.ws, s.table, s.taken)

def c07Sched : List CStep :=
  [.check 0, .take 0, .check 1, .take 1, .count 1, .count 0, .addlen 0, .check 0, .addlen 1, .check 1]

example :
    (CSys.run 3 1 (fun n => [n, n + 10]) (fun _ => 2) (CSys.init 2 0) c07Sched).map CSys.view
      = some (2, 4, [CState.done, CState.done], [1, 11, 0, 10], [0, 1]) := by decide +kernel

example :
    (CSys.run 3 1 (fun n => [n, n + 10]) (fun _ => 2) (CSys.init 2 0) c07Sched).map CSys.terminal
      = some true := by decide +kernel

/-- a step that is not enabled is refused -/
example : (CSys.run 3 1 (fun n => [n, n + 10]) (fun _ => 2) (CSys.init 2 0) [.take 0]).isNone = true := by
  decide +kernel

/-! ### merge of the per-chunk tables, partitions -/

/-- merging the per-chunk tables of one partition gives the table of the union, whatever the order
    in which each chunk's lines were written -/
theorem mergeTables_exact (files : List (List (Nat × Nat))) (ls : List (List Nat))
    (hlen : files.length = ls.length)
    (h : ∀ i (hi : i < files.length), IsTableOf files[i] (ls[i]'(hlen ▸ hi))) :
    IsTableOf (mergeTables files) ls.flatten :=
  Cnt.mergeTables_tab files ls hlen (fun i hi _ => h i hi)

/-- partitions split the k-mers: x goes to partition x % P in every chunk -/
theorem partition_split (P : Nat) (hP : 1 ≤ P) (l : List Nat) (x : Nat) :
    countOcc x l = countOcc x (l.filter fun y => partOf P y == partOf P x) ∧
    ∀ p, p ≠ partOf P x → countOcc x (l.filter fun y => partOf P y == p) = 0 := by
  have _ := hP  -- also holds for P = 0
  simp only [countOcc_eq_count]
  refine ⟨(List.count_filter (by simp)).symm, fun p hp => List.count_eq_zero.mpr fun hm => ?_⟩
  have : partOf P x = p := by simpa using (List.mem_filter.mp hm).2
  exact hp this.symm

/-- end to end: P partitions, any segmentation of the k-mer multiset into chunks, any line order in
    the chunk files ⇒ the concatenation over partitions of the merged tables is the table of all k-mers -/
theorem count_merge_exact (P : Nat) (hP : 1 ≤ P) (chunks : List (List Nat))
    (files : Nat → List (List (Nat × Nat)))
    (hfiles : ∀ p, p < P → (files p).length = chunks.length ∧
        ∀ i (hi : i < chunks.length) (hi' : i < (files p).length),
          IsTableOf ((files p)[i]) (chunks[i].filter fun y => partOf P y == p)) :
    IsTableOf ((List.range P).flatMap fun p => mergeTables (files p)) chunks.flatten := by
  have hpart : ∀ p, p < P →
      IsTableOf (mergeTables (files p)) (chunks.flatten.filter fun y => partOf P y == p) := by
    intro p hp
    obtain ⟨hl, ht⟩ := hfiles p hp
    rw [List.filter_flatten]
    refine Cnt.mergeTables_tab (files p) _ (by simpa using hl) fun i hi hi' => ?_
    simpa using ht i (by simpa using hi') hi
  have hkeyp : ∀ p, p < P → ∀ x, x ∈ (mergeTables (files p)).map (·.1) → partOf P x = p := fun p hp x hm => by
    simpa using (List.mem_filter.mp ((Cnt.tab_mem_keys (hpart p hp) x).mp hm)).2
  refine ⟨?_, fun x c hm => ?_, fun x hx => ?_⟩
  · -- no key twice within a partition (`hpart`), none under two partitions (`hkeyp`)
    rw [List.map_flatMap, List.nodup_iff_pairwise_ne, List.pairwise_flatMap]
    refine ⟨fun p hp => List.nodup_iff_pairwise_ne.mp (hpart p (List.mem_range.mp hp)).1, ?_⟩
    refine (List.nodup_iff_pairwise_ne.mp (List.nodup_range (n := P))).imp_of_mem ?_
    intro a b ha hb hne x hx y hy e
    exact hne ((hkeyp a (List.mem_range.mp ha) x hx).symm.trans
      (e ▸ hkeyp b (List.mem_range.mp hb) y hy))
  · obtain ⟨p, hp, hmp⟩ := List.mem_flatMap.mp hm
    have hp := List.mem_range.mp hp
    have hc := (hpart p hp).2.1 x c hmp
    rwa [← hkeyp p hp x (List.mem_map.mpr ⟨_, hmp, rfl⟩), ← (partition_split P hP chunks.flatten x).1] at hc
  · have hp : partOf P x < P := Nat.mod_lt _ hP
    rw [List.map_flatMap]
    exact List.mem_flatMap.mpr ⟨_, List.mem_range.mpr hp,
      (hpart _ hp).2.2 x (List.mem_filter.mpr ⟨hx, by simp⟩)⟩

/-- sum of all counts = number of k-mer occurrences -/
theorem table_sum (t : List (Nat × Nat)) (l : List Nat) (h : IsTableOf t l) : (t.map (·.2)).sum = l.length := by
  -- the counts per key of a duplicate-free key list covering `l` add up to its length
  -- (`countOcc x l` is `Vec.hits id l x` by definition)
  have hc : t.map (·.2) = (t.map (·.1)).map (Vec.hits id l) := by
    rw [List.map_map]
    exact List.map_congr_left fun p hp => (h.2.1 p.1 p.2 hp).1
  rw [hc]
  exact Vec.sum_hits id _ h.1 l h.2.2

/-! ### non-vacuity of the merge statements -/

/-- two chunk files of one partition, different line orders, one shared key -/
example : mergeTables [[(7, 2), (3, 1)], [(5, 1), (7, 3)]] = [(7, 5), (3, 1), (5, 1)] := by decide +kernel

/-- the hypotheses of `mergeTables_exact` are satisfiable and its conclusion is the expected table -/
example : IsTableOf [(7, 2), (3, 1)] [7, 3, 7] := by
  refine ⟨by decide, ?_, by decide⟩
  intro x c h
  simp only [List.mem_cons, Prod.mk.injEq, List.not_mem_nil, or_false] at h
  rcases h with ⟨rfl, rfl⟩ | ⟨rfl, rfl⟩ <;> decide +kernel

/-- partitions: with P = 2, key 7 lives in partition 1 only -/
example : countOcc 7 ([7, 3, 4, 7].filter fun y => partOf 2 y == 1) = 2 ∧
    countOcc 7 ([7, 3, 4, 7].filter fun y => partOf 2 y == 0) = 0 := by decide +kernel

/-- end to end, P = 2, chunks [7,3,7] and [4,7]: partition 0 then partition 1 -/
example :
    ((List.range 2).flatMap fun p =>
      mergeTables (if p = 0 then [[], [(4, 1)]] else [[(3, 1), (7, 2)], [(7, 1)]]))
      = [(4, 1), (3, 1), (7, 3)] := by decide +kernel

end KT
