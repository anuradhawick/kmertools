import KtVerif.Spec.Vectors
import KtVerif.Model.Vectors
import KtVerif.Proofs.VecAccum
import KtVerif.Props.C01
/-!
# C08: the coverage histogram row of a record

`covCounts k binSize binCount cnt s` is the code-shaped accumulation
`vec[min(floor(count / bin_size), bin_count - 1)] += 1` (`CovComputer::vectorise_one`), the quotient
being computed on doubles (`covBinF64`); `covRowSpec` is the histogram of the multiplicities `cnt` of
the canonical codes of the valid windows over the bins `binOf`.  The exactness of the float quotient is
the hypothesis `hbin`; `covBinF64_eq_div` / `covBinF64_eq_div_u64` (Props/FloatLemmas.lean) discharge it for
`cnt x < 2^32` and every bin size from 1 on.
-/
namespace KT

/-! ## bins -/

theorem binOf_lt (binSize binCount c : Nat) (hbc : 1 ≤ binCount) : binOf binSize binCount c < binCount :=
  Nat.lt_of_le_of_lt (Nat.min_le_right _ _) (Nat.sub_lt hbc Nat.one_pos)

theorem binOf_absent (binSize binCount : Nat) : binOf binSize binCount 0 = 0 := by
  unfold binOf
  rw [Nat.zero_div]
  exact Nat.min_eq_left (Nat.zero_le _)

theorem binOf_saturates (binSize binCount c : Nat) (hbs : 1 ≤ binSize) (h : (binCount - 1) * binSize ≤ c) :
    binOf binSize binCount c = binCount - 1 :=
  Nat.min_eq_right ((Nat.le_div_iff_mul_le hbs).2 h)

example : binOf 10 16 37 = 3 ∧ binOf 10 16 149 = 14 ∧ binOf 10 16 150 = 15 ∧ binOf 10 16 100000 = 15 := by decide +kernel
example : binOf 10 16 0 = 0 ∧ binOf 0 16 7 = 0 := by decide +kernel

/-! ## the histogram row -/

theorem covRowSpec_length (k binSize binCount : Nat) (cnt : Nat → Nat) (s : List Nat) :
    (covRowSpec k binSize binCount cnt s).length = binCount := by
  show ((List.range binCount).map _).length = _
  rw [List.length_map, List.length_range]

theorem cov_sum (k binSize binCount : Nat) (cnt : Nat → Nat) (s : List Nat) (hbc : 1 ≤ binCount) :
    (covRowSpec k binSize binCount cnt s).sum = windowCount k s := by
  rw [Vec.covRowSpec_eq_hits]
  exact Vec.sum_hits _ _ List.nodup_range _ fun p _ => List.mem_range.mpr (binOf_lt _ _ _ hbc)

-- canons = [1, 1, 0]; multiplicities 5·(x+1): code 1 ↦ 10 (bin 3, two windows), code 0 ↦ 5 (bin 1)
example : covRowSpec 2 3 4 (fun x => 5 * (x + 1)) [65,67,78,71,84,84] = [0, 1, 0, 2] ∧
    windowCount 2 [65,67,78,71,84,84] = 3 := by decide +kernel
-- without a bin the histogram is empty and the sum is 0 although there are windows
example : covRowSpec 2 3 0 (fun x => x) [65,67,78,71,84,84] = [] := by decide +kernel

theorem covCounts_eq_spec_of_bin (k binSize binCount : Nat) (cnt : Nat → Nat) (s : List Nat)
    (hk1 : 1 ≤ k) (hk : k ≤ 31) (hbc : 1 ≤ binCount)
    (hbin : ∀ x, covBinF64 (cnt x) binSize = cnt x / binSize) :
    covCounts k binSize binCount cnt s = (covRowSpec k binSize binCount cnt s, windowCount k s) := by
  have _ := hbc  -- also holds for binCount = 0: both rows are empty
  obtain ⟨h1, h2⟩ := Vec.accum_toList (fun p : Nat × Nat => min (covBinF64 (cnt (min p.1 p.2)) binSize) (binCount - 1))
    (kmers k s) binCount
  refine Prod.ext (h1.trans ?_) (h2.trans (by rw [kmerGen_eq_spec k s hk1 hk]; rfl))
  -- the float bin is the integer bin (`hbin`), so the two rows count the same hits
  rw [kmerGen_eq_spec k s hk1 hk, Vec.covRowSpec_eq_hits]
  exact List.map_congr_left fun b _ => Vec.hits_congr fun p _ => by rw [hbin]; exact Iff.rfl

-- the float hypothesis holds on a concrete instance (checked by kernel evaluation of the emulation),
-- and the model side is then evaluated through the theorem
example : covBinF64 7 3 = 7 / 3 ∧ covBinF64 10 3 = 3 ∧ covBinF64 9 3 = 3 := by decide +kernel
example : covCounts 2 3 4 (fun _ => 7) [65,67,78,71,84,84] = ([0, 0, 3, 0], 3) := by
  rw [covCounts_eq_spec_of_bin 2 3 4 (fun _ => 7) _ (by decide) (by decide) (by decide)
    (fun _ => by decide +kernel)]
  decide +kernel

theorem cov_zero_of_no_window (k binSize binCount : Nat) (cnt : Nat → Nat) (s : List Nat)
    (h : windowCount k s = 0) : ∀ x ∈ covRowSpec k binSize binCount cnt s, x = 0 := by
  rw [Vec.covRowSpec_eq_hits, List.eq_nil_of_length_eq_zero h]
  exact Vec.hits_zero_of_nil _ _

example : windowCount 2 [65,78,84] = 0 ∧ covRowSpec 2 3 4 (fun x => x) [65,78,84] = [0, 0, 0, 0] := by decide +kernel

end KT
