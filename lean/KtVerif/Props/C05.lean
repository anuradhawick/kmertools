import KtVerif.Model.Sched
import KtVerif.Proofs.SchedInv
import KtVerif.Proofs.SchedMmap
import KtVerif.Proofs.SchedBatch
/-!
# C05: the two writer strategies (memory-mapped positional writes under any schedule; batched
sequential writes under any memory limit) produce the same file: header, then rows in record order
-/
namespace KT

/-- any schedule: at a terminal state every record's effect happened exactly once -/
theorem gsys_any_schedule {σ : Type} (N T : Nat) (hT : 0 < T) (eff : Nat → σ → σ) (sh0 : σ)
    (sched : List GStep) (s' : GSys σ)
    (hr : GSys.run N eff (GSys.init T sh0) sched = some s') (ht : s'.terminal = true) :
    s'.order.Perm (List.range N) ∧ s'.sh = s'.order.foldl (fun a n => eff n a) sh0 := by
  have hI := Sch.inv_run N T eff sh0 _ s' sched (Sch.inv_init N T eff sh0) hr
  exact ⟨hI.terminal hT ht, hI.sh_eq⟩

/-- effects that commute pairwise on the records `0 .. N-1`: the final state is the sequential one,
    for every schedule -/
theorem gsys_commute_lt {σ : Type} (N T : Nat) (hT : 0 < T) (eff : Nat → σ → σ) (sh0 : σ)
    (hc : ∀ i j a, i < N → j < N → i ≠ j → eff i (eff j a) = eff j (eff i a))
    (sched : List GStep) (s' : GSys σ)
    (hr : GSys.run N eff (GSys.init T sh0) sched = some s') (ht : s'.terminal = true) :
    s'.sh = (List.range N).foldl (fun a n => eff n a) sh0 := by
  obtain ⟨hp, hsh⟩ := gsys_any_schedule N T hT eff sh0 sched s' hr ht
  rw [hsh]
  apply List.Perm.foldl_eq' hp
  intro x hx y hy z
  by_cases e : y = x
  · subst e; rfl
  · exact hc y x z (List.mem_range.mp (hp.subset hy)) (List.mem_range.mp (hp.subset hx)) e

/-- the same when the effects commute for all indices -/
theorem gsys_commute {σ : Type} (N T : Nat) (hT : 0 < T) (eff : Nat → σ → σ) (sh0 : σ)
    (hc : ∀ i j a, i ≠ j → eff i (eff j a) = eff j (eff i a))
    (sched : List GStep) (s' : GSys σ)
    (hr : GSys.run N eff (GSys.init T sh0) sched = some s') (ht : s'.terminal = true) :
    s'.sh = (List.range N).foldl (fun a n => eff n a) sh0 :=
  gsys_commute_lt N T hT eff sh0 (fun i j a _ _ => hc i j a) sched s' hr ht

/-- every schedule of the mmap writer leaves header ++ rows in record order -/
theorem mmap_any_schedule (T : Nat) (hT : 0 < T) (hdr : List Nat) (rows : List (List Nat)) (L : Nat)
    (hL : ∀ r ∈ rows, r.length = L) (sched : List GStep) (s' : GSys Cells)
    (hr : GSys.run rows.length (mmapEff hdr.length (fun n => rows.getD n []))
            (GSys.init T (mmapInit (rows.length * L + hdr.length) hdr)) sched = some s')
    (ht : s'.terminal = true) :
    s'.sh = mmapExpected hdr rows := by
  have hlen : ∀ n, n < rows.length → (rows.getD n []).length = L := fun n hn => by
    rw [Sch.getD_eq rows n hn]; exact hL _ (List.getElem_mem hn)
  -- rows of equal length go to disjoint ranges, so the writes commute: any schedule = in order
  rw [gsys_commute_lt _ T hT _ _ (fun i j a hi hj e => Sch.mmapEff_comm _ _ L i j (hlen i hi) (hlen j hj) e a)
      sched s' hr ht,
    Sch.mmapInit_eq hdr rows L hL, Sch.seq_fold hdr rows L hL rows.length (Nat.le_refl _), Sch.seqFile_last]

theorem batchLoop_flatten {α : Type} (limit : Nat) (len : α → Nat) (recs : List α) :
    (batchLoop limit len recs).flatten = recs := by
  unfold batchLoop
  rw [Sch.batchLoopAux_flatten]; rfl

theorem batchLoop_nonempty {α : Type} (limit : Nat) (len : α → Nat) (recs : List α) :
    ∀ b ∈ batchLoop limit len recs, b ≠ [] :=
  Sch.batchLoopAux_nonempty limit len recs [] 0

/-- any batch limit: the batched path writes the rows in record order -/
theorem batchOutput_eq {α : Type} (limit : Nat) (len : α → Nat) (row : α → List Nat) (recs : List α) :
    batchOutput limit len row recs = (recs.map row).flatten := by
  unfold batchOutput
  rw [Sch.flatten_map_flatten, batchLoop_flatten]

/-- both writer strategies produce the same bytes -/
theorem paths_agree (T : Nat) (hT : 0 < T) (hdr : List Nat) (recs : List (List Nat)) (row : List Nat → List Nat) (L limit : Nat)
    (hL : ∀ r ∈ recs, (row r).length = L) (sched : List GStep) (s' : GSys Cells)
    (hr : GSys.run recs.length (mmapEff hdr.length (fun n => (recs.map row).getD n []))
            (GSys.init T (mmapInit (recs.length * L + hdr.length) hdr)) sched = some s')
    (ht : s'.terminal = true) :
    s'.sh = (hdr ++ batchOutput limit List.length row recs).map some := by
  have hL' : ∀ r ∈ recs.map row, r.length = L := by
    intro r hr
    obtain ⟨a, ha, rfl⟩ := List.mem_map.mp hr
    exact hL a ha
  have h := mmap_any_schedule T hT hdr (recs.map row) L hL' sched s'
  simp only [List.length_map] at h
  rw [h hr ht, batchOutput_eq]; rfl

/-! ## non-vacuity -/

/-- two workers, two records, effects happen out of order; the run is defined and terminal -/
example : ((GSys.run 2 (fun n (a : List Nat) => a ++ [n]) (GSys.init 2 [])
    [.take 0, .take 1, .act 1, .act 0, .take 0, .take 1]).map
      fun s => (s.terminal, s.order, s.sh, s.next)) = some (true, [1, 0], [1, 0], 2) := by decide +kernel

/-- a disabled step (worker 0 acts while idle) makes the run undefined -/
example : ((GSys.run 2 (fun n (a : List Nat) => a ++ [n]) (GSys.init 2 []) [.act 0]).isSome) = false := by
  decide +kernel

/-- the mmap writer with rows written in reverse order -/
example : ((GSys.run 2 (mmapEff 2 (fun n => [[1, 2, 3], [4, 5, 6]].getD n []))
    (GSys.init 2 (mmapInit (2 * 3 + 2) [8, 9]))
    [.take 0, .take 1, .act 1, .act 0, .take 0, .take 1]).map fun s => (s.terminal, s.sh)) =
    some (true, mmapExpected [8, 9] [[1, 2, 3], [4, 5, 6]]) := by decide +kernel

/-- degenerate: no records, one worker -/
example : ((GSys.run 0 (mmapEff 0 (fun n => ([] : List (List Nat)).getD n []))
    (GSys.init 1 (mmapInit (0 * 7 + 0) [])) [.take 0]).map fun s => (s.terminal, s.sh)) =
    some (true, []) := by decide +kernel

/-- degenerate: all rows empty (`L = 0`) -/
example : ((GSys.run 2 (mmapEff 1 (fun n => [[], []].getD n []))
    (GSys.init 1 (mmapInit (2 * 0 + 1) [7])) [.take 0, .act 0, .take 0, .act 0, .take 0]).map
      fun s => (s.terminal, s.sh)) = some (true, [some 7]) := by decide +kernel

example : batchLoop 5 List.length [[1, 2, 3], [4, 5, 6], [7]] = [[[1, 2, 3], [4, 5, 6]], [[7]]] := by decide +kernel
example : batchLoop 0 List.length [[1, 2, 3], [4, 5, 6], [7]] = [[[1, 2, 3]], [[4, 5, 6]], [[7]]] := by decide +kernel
example : batchLoop 100 List.length [[1, 2, 3], [4, 5, 6], [7]] = [[[1, 2, 3], [4, 5, 6], [7]]] := by decide +kernel
example : batchLoop 5 List.length ([] : List (List Nat)) = [] := by decide +kernel
example : batchOutput 5 List.length (fun r => r ++ [10]) [[1, 2, 3], [4, 5, 6], [7]] =
    [1, 2, 3, 10, 4, 5, 6, 10, 7, 10] := by decide +kernel

end KT
