import KtVerif.Model.Display
import KtVerif.Proofs.Display
/-!
# `format!("{}", x)` of a non-negative finite `f64` reads back as the same double

The proofs are in `KtVerif/Proofs/Display.lean` (namespace `KT.Disp`).
A scaled double is the natural number `n` meaning `n · 2^-1074`.  `decToF64 D e` is the double nearest to `D · 10^e`
(ties to even), `parseF64` the reader for the positional syntax, `f64Display` Rust's `Display`.
-/
namespace KT

/-- whatever the search returns reads back as `n` -/
theorem shortestAt_sound (n d D : Nat) (e : Int) (h : shortestAt n d = some (D, e)) : decToF64 D e = n :=
  Disp.shortestAt_sound n d D e h

/-- the digits and exponent that are printed denote a decimal that rounds to `n` -/
theorem shortestDec_sound (n : Nat) (hn : IsF64 n) : decToF64 (shortestDec n).1 (shortestDec n).2 = n :=
  Disp.shortestDec_sound n hn

/-- reading the positional text gives the double nearest to `D · 10^e` -/
theorem parse_positional (D : Nat) (e : Int) : parseF64 (positional D e) = some (decToF64 D e) :=
  Disp.parse_positional D e

/-- the printed text of every double reads back as that double -/
theorem display_roundtrip (n : Nat) (hn : IsF64 n) : parseF64 (f64Display n) = some n :=
  Disp.display_roundtrip n hn

/-- completeness of one search step: if ANY non-zero decimal with `d` digits' worth of precision (last digit at
exponent `dec10Exp n - d + 1`) reads back as `n`, the step finds one — so `shortestFrom` stops at the first digit count
for which a round-tripping decimal exists, i.e. the output is a shortest one -/
theorem shortestAt_complete (n d D' : Nat) (hn : 0 < n) (hD : decToF64 D' (dec10Exp n - (d : Int) + 1) = n) :
    (shortestAt n d).isSome :=
  Disp.shortestAt_complete n d D' hn hD

/-- `shortestFrom` returns the result of the first successful step -/
theorem shortestFrom_first (n fuel d0 : Nat) (r : Nat × Int) (h : shortestFrom n fuel d0 = some r) :
    ∃ d, d0 ≤ d ∧ d < d0 + fuel ∧ shortestAt n d = some r ∧ ∀ d', d0 ≤ d' → d' < d → shortestAt n d' = none :=
  Disp.shortestFrom_first n fuel d0 r h

/-! ## non-vacuity -/

example : IsF64 3 := ⟨3, 0, by decide, by decide⟩

example : IsF64 (3 * 2 ^ 1073) := ⟨3, 1073, by decide, rfl⟩

example : digitsVal [49, 50, 53] = 125 := by decide +kernel

example : allDigits [48, 53] = true := by decide +kernel

example : positional 125 1 = [49, 50, 53, 48] := by decide +kernel

example : positional 125 (-2) = [49, 46, 50, 53] := by decide +kernel

example : positional 5 (-3) = [48, 46, 48, 48, 53] := by decide +kernel

example : stripZeros 1100 2500 (-4) = (25, -2) := by decide +kernel

example : parseF64 [48, 46, 53] = some (decToF64 5 (-1)) := by rfl

example : parseF64 [49, 50] = some (decToF64 12 0) := by rfl

example : parseF64 [49, 46] = none := by decide +kernel

example : parseF64 (positional 5 (-1)) = some (decToF64 5 (-1)) := parse_positional 5 (-1)

/-- the hypothesis of `shortestFrom_first` is satisfiable only through a successful step, and the conclusion then determines `r` -/
example (n : Nat) (r : Nat × Int) (h : shortestFrom n 17 1 = some r) : decToF64 r.1 r.2 = n := by
  obtain ⟨d, _, _, h3, _⟩ := shortestFrom_first n 17 1 r h
  exact shortestAt_sound n d r.1 r.2 h3

end KT
