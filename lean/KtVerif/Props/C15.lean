import KtVerif.Spec.Cli
import KtVerif.Model.MinOut
import KtVerif.Model.Vectors
import KtVerif.Proofs.CliDecide
/-!
# C15: the command line — which parameter sets are accepted, and what the options change

`cliDecide` is the documented accept/refuse behaviour, written with the ranges of `documentedRanges`
(`Spec/Cli.lean`; the ranges found in the clap attributes are checked against that table in
`KtVerif/Tie/Cli.lean`, the decisions against the shipped binary by the correspondence run).  Every
accepted parameter set lies inside the domain of the core theorems; a preset only selects the delimiter;
that thread count and flags do not enter the decision is stated for `oligo` and `min`.
-/
namespace KT

theorem oligo_run_iff (k : Nat) (c h : Bool) (p : VecPreset) (t : Nat) :
    cliDecide (.oligo k c h p t) = .run ↔ (3 ≤ k ∧ k ≤ 7) := by
  simp only [cliDecide, ite_eq_left_iff, reduceCtorEq, imp_false, Decidable.not_not, Cl.inRange_iff]

theorem cgr_k_run_iff (k : Nat) (c : Bool) (v : Option Nat) (t : Nat) :
    cliDecide (.cgr (some k) c v t) = .run ↔ (3 ≤ k ∧ k ≤ 7) := by
  simp only [cliDecide, ite_eq_left_iff, reduceCtorEq, imp_false, Decidable.not_not, Cl.inRange_iff]

theorem cgr_whole_run_iff (c : Bool) (v : Option Nat) (t : Nat) : cliDecide (.cgr none c v t) = .run ↔ c = false := by
  cases c <;> simp [cliDecide]

theorem cov_run_iff (k bs bc mem : Nat) (c : Bool) (p : VecPreset) (t : Nat) :
    cliDecide (.cov k bs bc mem c p t) = .run ↔ (7 ≤ k ∧ k ≤ 31 ∧ 5 ≤ bs ∧ 5 ≤ bc ∧ 6 ≤ mem ∧ mem ≤ 128) := by
  simp only [cliDecide, Cl.ite_run_iff, ne_eq, reduceCtorEq, not_false_eq_true, Cl.not_inRange_iff, Nat.not_lt, and_true,
    and_assoc]

theorem min_run_iff (m w : Nat) (p : MinPreset) (t : Nat) :
    cliDecide (.min m w p t) = .run ↔ (7 ≤ m ∧ m ≤ 28 ∧ (w = 0 ∨ m < w)) := by
  have hw : ¬(w ≤ m ∧ 0 < w) ↔ w = 0 ∨ m < w := by omega
  simp only [cliDecide, Cl.ite_run_iff, ne_eq, reduceCtorEq, not_false_eq_true, Cl.not_inRange_iff, and_true, and_assoc, hw]

theorem ctr_run_iff (k mem : Nat) (a : Bool) (t : Nat) :
    cliDecide (.ctr k mem a t) = .run ↔ (10 ≤ k ∧ k ≤ 31 ∧ 6 ≤ mem ∧ mem ≤ 128) := by
  simp only [cliDecide, Cl.ite_run_iff, ne_eq, reduceCtorEq, not_false_eq_true, Cl.not_inRange_iff, and_true, and_assoc]

example : cliDecide (.oligo 8 false false .csv 0) = .refuseRange "k-size" := rfl
example : cliDecide (.oligo 2 false false .csv 0) = .refuseRange "k-size" := rfl
example : cliDecide (.oligo 3 true true .tsv 4) = .run ∧ cliDecide (.oligo 7 false false .spc 0) = .run := ⟨rfl, rfl⟩
example : cliDecide (.cgr (some 8) false none 0) = .refuseRange "k-size" := rfl
example : cliDecide (.cgr none true none 0) = .refuseMsg "cannot use counts in whole sequence CGR" := rfl
example : cliDecide (.cgr none false (some 64) 0) = .run := rfl
example : cliDecide (.cov 6 5 5 6 false .csv 0) = .refuseRange "k-size" := rfl
example : cliDecide (.cov 15 4 5 6 false .csv 0) = .refuseRange "bin-size" := rfl
example : cliDecide (.cov 15 5 4 6 false .csv 0) = .refuseRange "bin-count" := rfl
example : cliDecide (.cov 15 5 5 129 false .csv 0) = .refuseRange "memory" := rfl
example : cliDecide (.cov 15 5 5 5 false .csv 0) = .refuseRange "memory" := rfl
example : cliDecide (.cov 31 5 5 128 true .spc 8) = .run := rfl
example : cliDecide (.min 7 5 .s2m 0) = .refuseMsg "Window size must be longer than minimiser size" := rfl
example : cliDecide (.min 7 7 .s2m 0) = .refuseMsg "Window size must be longer than minimiser size" := rfl
example : cliDecide (.min 6 0 .s2m 0) = .refuseRange "m-size" ∧ cliDecide (.min 29 40 .m2s 0) = .refuseRange "m-size" := ⟨rfl, rfl⟩
example : cliDecide (.min 7 0 .s2m 0) = .run ∧ cliDecide (.min 28 29 .m2s 3) = .run := ⟨rfl, rfl⟩
example : cliDecide (.ctr 9 6 false 0) = .refuseRange "k-size" ∧ cliDecide (.ctr 10 5 false 0) = .refuseRange "memory" := ⟨rfl, rfl⟩
example : cliDecide (.ctr 10 6 true 0) = .run ∧ cliDecide (.ctr 31 128 false 2) = .run := ⟨rfl, rfl⟩

/-- every accepted parameter set lies in the domain of the core theorems (no overflow panic in any constructor) -/
theorem accepted_in_core_domain (cmd : Cmd) (h : cliDecide cmd = .run) :
    match cmd with
    | .oligo k _ _ _ _ => kmerNewSafe k = true
    | .cgr (some k) _ _ _ => kmerNewSafe k = true
    | .cgr none _ _ _ => True
    | .cov k _ bc _ _ _ _ => kmerNewSafe k = true ∧ covSafe bc = true
    | .min m w _ _ => ∀ seq, minOutSafe w m seq = true
    | .ctr k _ _ _ => kmerNewSafe k = true := by
  rcases cmd with ⟨k, c, hd, p, t⟩ | ⟨_ | k, c, v, t⟩ | ⟨k, bs, bc, mem, c, p, t⟩ | ⟨m, w, p, t⟩ | ⟨k, mem, a, t⟩
  · exact Cl.kmerNewSafe_of (by decide) (by decide) ((oligo_run_iff k c hd p t).mp h)
  · trivial
  · exact Cl.kmerNewSafe_of (by decide) (by decide) ((cgr_k_run_iff k c v t).mp h)
  · have := (cov_run_iff k bs bc mem c p t).mp h
    exact ⟨Cl.kmerNewSafe_of (by decide) (by decide) ⟨this.1, this.2.1⟩,
      decide_eq_true (Nat.le_trans (by decide) this.2.2.2.1)⟩
  · have := (min_run_iff m w p t).mp h
    exact Cl.minOutSafe_of (by decide) (by decide) ⟨this.1, this.2.1⟩ this.2.2
  · have := (ctr_run_iff k mem a t).mp h
    exact Cl.kmerNewSafe_of (by decide) (by decide) ⟨this.1, this.2.1⟩

/-- outside the accepted range the constructor WOULD overflow: the refusal is what keeps the run in the domain -/
example : kmerNewSafe 32 = false ∧ kmerNewSafe 0 = false ∧ covSafe 0 = false ∧ minOutSafe 5 7 [65, 67] = false := by decide +kernel
example : minOutSafe 0 7 [] = true ∧ minOutSafe 0 7 [65, 67] = true ∧ minOutSafe 8 7 [] = true := by decide +kernel

/-- the thread option never enters the decision -/
theorem decision_ignores_threads_oligo (k : Nat) (c h : Bool) (p : VecPreset) (t t' : Nat) :
    cliDecide (.oligo k c h p t) = cliDecide (.oligo k c h p t') := rfl

theorem decision_ignores_threads_min (m w : Nat) (p : MinPreset) (t t' : Nat) :
    cliDecide (.min m w p t) = cliDecide (.min m w p t') := rfl

/-- presets, header flag, counts flag do not enter the oligo decision -/
theorem decision_ignores_flags_oligo (k : Nat) (c c' h h' : Bool) (p p' : VecPreset) (t : Nat) :
    cliDecide (.oligo k c h p t) = cliDecide (.oligo k c' h' p' t) := rfl

theorem delimOf_values : delimOf .csv = [44] ∧ delimOf .tsv = [9] ∧ delimOf .spc = [32] := ⟨rfl, rfl, rfl⟩

/-- a preset only changes the delimiter: a row is its cells joined by the delimiter plus a newline, and the cells do not depend on it -/
theorem rowText_cells (norm : Bool) (delim : List Nat) (counts : List Nat) (total : Nat) :
    rowText norm delim counts total =
      joinBytes delim (if norm then (normalise counts total).map fmt6 else counts.map natText) ++ [10] := rfl

/-- counts and default output differ exactly by per-row normalisation -/
theorem normalise_spec (counts : List Nat) (total : Nat) :
    normalise counts total = counts.map fun c => f64Div (f64OfNat c) (f64OfNat (max 1 total)) := rfl

theorem defaultVecSize_sq (k : Nat) : defaultVecSize k = k * k := rfl

example : rowText false (delimOf .csv) [3, 0, 12] 15 = [51, 44, 48, 44, 49, 50, 10] := by decide +kernel
example : rowText false (delimOf .tsv) [3, 0, 12] 15 = [51, 9, 48, 9, 49, 50, 10] := by decide +kernel
example : rowText false (delimOf .spc) [] 0 = [10] := by decide +kernel
example : defaultVecSize 5 = 25 := by decide +kernel

/-- a range refusal names one of the documented options -/
theorem refuse_range_reason (cmd : Cmd) (o : String) (h : cliDecide cmd = .refuseRange o) :
    o = "k-size" ∨ o = "bin-size" ∨ o = "bin-count" ∨ o = "memory" ∨ o = "m-size" := by
  have k : Cl.Reason "k-size" := .inl rfl
  have bs : Cl.Reason "bin-size" := .inr (.inl rfl)
  have bc : Cl.Reason "bin-count" := .inr (.inr (.inl rfl))
  have mem : Cl.Reason "memory" := .inr (.inr (.inr (.inl rfl)))
  have m : Cl.Reason "m-size" := .inr (.inr (.inr (.inr rfl)))
  have no : ∀ {d : Decision}, d ≠ .refuseRange o → d = .refuseRange o → Cl.Reason o := fun h e => absurd e h
  cases cmd with
  | oligo =>
    simp only [cliDecide] at h
    split at h
    · cases h
    · cases h; exact k
  | cgr kk =>
    cases kk with
    | none => simp only [cliDecide] at h; split at h <;> cases h  -- a message or `.run`, no range refusal
    | some =>
      simp only [cliDecide] at h
      split at h
      · cases h
      · cases h; exact k
  | cov => exact Cl.ite_reason k (Cl.ite_reason bs (Cl.ite_reason bc (Cl.ite_reason mem (no (by simp))))) h
  | min => exact Cl.ite_reason m (no (by split <;> simp)) h
  | ctr => exact Cl.ite_reason k (Cl.ite_reason mem (no (by simp))) h

/-- each of the five reasons occurs -/
example : cliDecide (.oligo 8 false false .csv 0) = .refuseRange "k-size" ∧
    cliDecide (.cov 15 4 5 6 false .csv 0) = .refuseRange "bin-size" ∧
    cliDecide (.cov 15 5 4 6 false .csv 0) = .refuseRange "bin-count" ∧
    cliDecide (.ctr 10 200 false 0) = .refuseRange "memory" ∧
    cliDecide (.min 30 0 .s2m 0) = .refuseRange "m-size" := ⟨rfl, rfl, rfl, rfl, rfl⟩

end KT
