import KtVerif.Proofs.Canon
import KtVerif.Proofs.CanonCount
/-!
# C03: the canonical k-mer table (`kmer_pos_maps`, `get_header`)

Helpers about variables live in `KtVerif/Proofs/Canon*.lean` (namespace `KT.Canon`).
-/
namespace KT

/-! ## the specification list of canonical codes -/

theorem mem_canonList (k x : Nat) : x ∈ canonList k ↔ (x < 4 ^ k ∧ x ≤ revCompSpec k x) := by
  simp [canonList, List.mem_filter, List.mem_range]

theorem Canon.zero_mem_canonList (k : Nat) : 0 ∈ canonList k :=
  (mem_canonList k 0).2 ⟨Nat.pow_pos (by decide), Nat.zero_le _⟩

theorem canonList_sorted (k : Nat) : (canonList k).Pairwise (· < ·) :=
  List.Pairwise.filter _ List.pairwise_lt_range

theorem canon_min_mem (k x : Nat) (hx : x < 4 ^ k) : min x (revCompSpec k x) ∈ canonList k := by
  rw [mem_canonList]
  rcases Nat.le_total x (revCompSpec k x) with hle | hle
  · rw [Nat.min_eq_left hle]; exact ⟨hx, hle⟩
  · rw [Nat.min_eq_right hle, revCompSpec_involutive k x hx]; exact ⟨revCompSpec_lt k x, hle⟩

example : canonList 2 = [0, 1, 2, 3, 4, 5, 6, 8, 9, 12] := by decide +kernel
example : 6 ∈ canonList 2 ∧ 7 ∉ canonList 2 := by decide +kernel
example : min 7 (revCompSpec 2 7) = 2 ∧ min 7 (revCompSpec 2 7) ∈ canonList 2 := by decide +kernel

/-! ## the model's table equals the specification list -/

theorem minMerVec_eq_canonList (k : Nat) (hk : k ≤ 31) : minMerVec k = canonList k := by
  refine Canon.dedupAdj_mergeSort (canonList_sorted k) fun x => ?_
  rw [List.mem_map]
  constructor
  · rintro ⟨y, hy, rfl⟩
    rw [Canon.revComp_eq_spec k y hk]
    exact canon_min_mem k y (List.mem_range.1 hy)
  · intro hx
    obtain ⟨hx, hle⟩ := (mem_canonList k x).1 hx
    exact ⟨x, List.mem_range.2 hx, by rw [Canon.revComp_eq_spec k x hk]; exact Nat.min_eq_left hle⟩

theorem posKmer_eq_canonList (k : Nat) (hk : k ≤ 31) : (kmerPosMaps k).posKmer = canonList k :=
  minMerVec_eq_canonList k hk

theorem kcount_eq (k : Nat) (hk : k ≤ 31) : (kmerPosMaps k).kcount = (canonList k).length :=
  congrArg List.length (minMerVec_eq_canonList k hk)

-- (`mergeSort` is defined by well-founded recursion, so the model side is evaluated through the
-- theorems; the hypotheses are discharged by `decide`)
example : minMerVec 2 = [0, 1, 2, 3, 4, 5, 6, 8, 9, 12] := by
  rw [minMerVec_eq_canonList 2 (by decide)]; decide +kernel
example : (kmerPosMaps 2).posKmer = [0, 1, 2, 3, 4, 5, 6, 8, 9, 12] := by
  rw [posKmer_eq_canonList 2 (by decide)]; decide +kernel
example : (kmerPosMaps 2).kcount = 10 := by
  rw [kcount_eq 2 (by decide)]; decide +kernel

/-! ## the position map -/

theorem posMap_size (k : Nat) : (kmerPosMaps k).posMap.size = 4 ^ k :=
  Canon.posMapOf_size k (minMerVec k)

theorem posMap_rank (k : Nat) (hk : k ≤ 31) (i : Nat) (hi : i < (canonList k).length) :
    (kmerPosMaps k).posMap[(canonList k)[i]]! = i := by
  show (posMapOf k (minMerVec k))[(canonList k)[i]]! = i
  rw [minMerVec_eq_canonList k hk]
  exact Canon.posMapOf_rank k (canonList k) ((canonList_sorted k).imp Nat.ne_of_lt) i hi
    ((mem_canonList k _).1 (List.getElem_mem hi)).1

theorem posMap_noncanon (k : Nat) (hk : k ≤ 31) (x : Nat) (hx : x < 4 ^ k) (hn : x ∉ canonList k) :
    (kmerPosMaps k).posMap[x]! = 0 := by
  have _ := hx  -- also holds for x ≥ 4^k: beyond the array `[x]!` is the default, 0
  show (posMapOf k (minMerVec k))[x]! = 0
  rw [minMerVec_eq_canonList k hk]
  exact Canon.posMapOf_not_mem k (canonList k) x hn

theorem posMap_lt_kcount (k : Nat) (hk1 : 1 ≤ k) (hk : k ≤ 31) (x : Nat) (hx : x < 4 ^ k) :
    (kmerPosMaps k).posMap[x]! < (kmerPosMaps k).kcount := by
  have _ := hk1  -- also holds for k = 0 (one column, the empty word)
  rw [kcount_eq k hk]
  by_cases hm : x ∈ canonList k
  · obtain ⟨i, hi, rfl⟩ := List.getElem_of_mem hm
    rw [posMap_rank k hk i hi]; exact hi
  · rw [posMap_noncanon k hk x hx hm]
    exact List.length_pos_of_mem (Canon.zero_mem_canonList k)

example : (kmerPosMaps 2).posMap = #[0, 1, 2, 3, 4, 5, 6, 0, 7, 8, 0, 0, 9, 0, 0, 0] := by
  show posMapOf 2 (minMerVec 2) = _
  rw [minMerVec_eq_canonList 2 (by decide)]; decide +kernel
example : (canonList 2)[7] = 8 ∧ (kmerPosMaps 2).posMap[(canonList 2)[7]]! = 7 :=
  ⟨by decide, posMap_rank 2 (by decide) 7 (by decide)⟩
example : 7 < 4 ^ 2 ∧ 7 ∉ canonList 2 ∧ (kmerPosMaps 2).posMap[7]! = 0 :=
  ⟨by decide, by decide, posMap_noncanon 2 (by decide) 7 (by decide) (by decide)⟩
example : (kmerPosMaps 2).posMap[7]! < (kmerPosMaps 2).kcount :=
  posMap_lt_kcount 2 (by decide) (by decide) 7 (by decide)

/-! ## the documented column count -/

theorem kcount_formula (k : Nat) (hk1 : 1 ≤ k) : (canonList k).length = kcountFormula k := by
  have _ := hk1  -- also holds for k = 0: one column, and (1 + 1) / 2 = 1
  -- the list has no duplicates and the members of the finite set that `CanonCount` counts
  rw [← Canon.canonS_card_formula, ← List.toFinset_card_of_nodup ((canonList_sorted k).imp Nat.ne_of_lt)]
  congr 1
  ext x
  rw [List.mem_toFinset, mem_canonList, Canon.mem_canonS, Canon.revCompSpec_eq_rc]

example : kcountFormula 4 = 136 := by decide +kernel
example : kcountFormula 3 = 32 ∧ (canonList 3).length = 32 := by decide +kernel
example : kcountFormula 2 = 10 ∧ (canonList 2).length = 10 := by decide +kernel

/-! ## header texts -/

theorem header_eq_spec (k : Nat) (hk : k ≤ 31) : header k = headerSpec k := by
  unfold header headerSpec
  rw [posKmer_eq_canonList k hk]
  exact List.map_congr_left (fun x _ => numericToKmer_eq_spec k x)

theorem decodeSpec_lex_mono (k x y : Nat) (hx : x < 4 ^ k) (hy : y < 4 ^ k) (hxy : x < y) :
    List.Lex (· < ·) (decodeSpec k x) (decodeSpec k y) := by
  induction k generalizing x y with
  | zero => rw [Nat.lt_one_iff.1 hx, Nat.lt_one_iff.1 hy] at hxy; exact absurd hxy (Nat.lt_irrefl 0)
  | succ k ih =>
    rw [Nat.pow_succ'] at hx hy
    rw [decodeSpec_succ, decodeSpec_succ]
    rcases Canon.lt_div_or_mod hxy with hlt | ⟨heq, hlt⟩
    · exact Canon.lex_append_of_length_eq (ih _ _ (Nat.div_lt_of_lt_mul hx) (Nat.div_lt_of_lt_mul hy) hlt)
        (by rw [decodeSpec_length, decodeSpec_length]) _ _
    · rw [heq]
      exact List.append_left_lt (List.Lex.rel (Canon.letterOf_mono (Nat.mod_lt _ (by decide)) hlt))

example : header 1 = [[65], [67]] := by
  rw [header_eq_spec 1 (by decide)]; decide +kernel
example : List.Lex (· < ·) (decodeSpec 2 6) (decodeSpec 2 8) :=
  decodeSpec_lex_mono 2 6 8 (by decide) (by decide) (by decide)
example : headerSpec 2 =
    [[65, 65], [65, 67], [65, 71], [65, 84], [67, 65], [67, 67], [67, 71], [71, 65], [71, 67],
     [84, 65]] := by decide +kernel
example : decodeSpec 2 6 = [67, 71] ∧ decodeSpec 2 8 = [71, 65] := by decide +kernel

end KT
