import KtVerif.Spec.Vectors
import KtVerif.Model.Vectors
import KtVerif.Proofs.VecOligo
/-!
# C04: the oligonucleotide composition row of a record

`oligoCounts (kmerPosMaps k) k s` is the code-shaped accumulation `vec[pos_map[min(f, r)]] += 1`
(`OligoComputer::vectorise_one`); `oligoRowSpec k s` counts, per canonical k-mer in column order, the
valid windows of `s` with that canonical form.
-/
namespace KT

/-! ## shape of the specification row -/

theorem oligoRowSpec_length (k : Nat) (s : List Nat) : (oligoRowSpec k s).length = (canonList k).length := by
  show ((canonList k).map _).length = _
  rw [List.length_map]

theorem oligoRowSpec_getD (k : Nat) (s : List Nat) (c : Nat) (hc : c < (canonList k).length) :
    (oligoRowSpec k s).getD c 0 = oligoSpec k s c := by
  show ((canonList k).map fun x => countOcc x (canons k s)).getD c 0 = countOcc ((canonList k).getD c 0) (canons k s)
  rw [List.getD_eq_getElem?_getD, List.getD_eq_getElem?_getD, List.getElem?_map, List.getElem?_eq_getElem hc]
  rfl

example : oligoRowSpec 2 [65,67,78,71,84,84] = [1, 2, 0, 0, 0, 0, 0, 0, 0, 0] := by decide +kernel
example : (oligoRowSpec 2 [65,67,78,71,84,84]).getD 1 0 = 2 ∧ oligoSpec 2 [65,67,78,71,84,84] 1 = 2 := by decide +kernel

/-! ## the model computes the specification row, with in-range `get_unchecked` indices -/

theorem oligoCounts_eq_spec (k : Nat) (s : List Nat) (hk1 : 1 ≤ k) (hk : k ≤ 31) :
    oligoCounts (kmerPosMaps k) k s = (oligoRowSpec k s, windowCount k s) := by
  obtain ⟨h1, h2⟩ := Vec.accum_toList (fun p : Nat × Nat => (kmerPosMaps k).posMap[min p.1 p.2]!) (kmers k s)
    (kmerPosMaps k).kcount
  refine Prod.ext (h1.trans ?_) (h2.trans (by rw [kmerGen_eq_spec k s hk1 hk]; rfl))
  rw [kmerGen_eq_spec k s hk1 hk, kcount_eq k hk, Vec.oligoRowSpec_eq_hits]
  -- column `j` is reached exactly by the items whose canonical code is `(canonList k)[j]`
  refine List.ext_getElem (by rw [List.length_map, List.length_range, List.length_map]) fun j h1 _ => ?_
  rw [List.length_map, List.length_range] at h1
  rw [List.getElem_map, List.getElem_map, List.getElem_range]
  exact Vec.hits_congr fun p hp => Vec.posMap_canonPair_iff hk hp h1

theorem oligo_index_safe (k : Nat) (s : List Nat) (hk1 : 1 ≤ k) (hk : k ≤ 31) :
    oligoSafe (kmerPosMaps k) k s = true := by
  unfold oligoSafe
  rw [kmerGen_eq_spec k s hk1 hk, List.all_eq_true]
  intro p hp
  have hlt : min p.1 p.2 < 4 ^ k := Nat.lt_of_le_of_lt (Nat.min_le_left ..) (specKmers_lt k s p hp).1
  unfold oligoStepSafe
  rw [Bool.and_eq_true, decide_eq_true_eq, decide_eq_true_eq, posMap_size]
  exact ⟨hlt, posMap_lt_kcount k hk1 hk _ hlt⟩

-- (`kmerPosMaps` goes through `mergeSort`, so the model side is evaluated through the theorem)
example : oligoCounts (kmerPosMaps 2) 2 [65,67,78,71,84,84] = ([1, 2, 0, 0, 0, 0, 0, 0, 0, 0], 3) := by
  rw [oligoCounts_eq_spec 2 _ (by decide) (by decide)]; decide +kernel
example : oligoSafe (kmerPosMaps 1) 1 [84, 78, 67] = true :=
  oligo_index_safe 1 _ (by decide) (by decide)

/-! ## totals -/

theorem oligo_sum (k : Nat) (s : List Nat) (hk1 : 1 ≤ k) : (oligoRowSpec k s).sum = windowCount k s := by
  have _ := hk1  -- also holds for k = 0
  rw [Vec.oligoRowSpec_eq_hits]
  exact Vec.sum_hits canonPair _ (Vec.canonList_nodup k) _ fun p hp => Vec.canonPair_mem hp

theorem oligo_zero_of_no_window (k : Nat) (s : List Nat) (h : windowCount k s = 0) :
    ∀ x ∈ oligoRowSpec k s, x = 0 := by
  rw [Vec.oligoRowSpec_eq_hits, List.eq_nil_of_length_eq_zero h]
  exact Vec.hits_zero_of_nil canonPair (canonList k)

example : (oligoRowSpec 2 [65,67,78,71,84,84]).sum = 3 ∧ windowCount 2 [65,67,78,71,84,84] = 3 := by decide +kernel
example : windowCount 2 [65,78,84] = 0 ∧ oligoRowSpec 2 [65,78,84] = [0, 0, 0, 0, 0, 0, 0, 0, 0, 0] := by decide +kernel

/-! ## invariances: strand, letter case, T ↔ U -/

theorem oligoRowSpec_rcSeq (k : Nat) (s : List Nat) (hk1 : 1 ≤ k) : oligoRowSpec k (rcSeq s) = oligoRowSpec k s := by
  show (canonList k).map (fun x => countOcc x (canons k (rcSeq s))) = (canonList k).map (fun x => countOcc x (canons k s))
  -- the canonical codes of the reverse complement are those of `s`, in reverse order
  rw [canons_rcSeq hk1]
  exact List.map_congr_left fun x _ => by rw [countOcc_eq_count, countOcc_eq_count, List.count_reverse]

example : rcSeq [65,67,78,71,71] = [67,67,78,71,84] ∧
    oligoRowSpec 2 [67,67,78,71,84] = oligoRowSpec 2 [65,67,78,71,71] ∧
    specKmers 2 [67,67,78,71,84] ≠ specKmers 2 [65,67,78,71,71] := by decide +kernel

theorem specKmers_map_congr (k : Nat) (s : List Nat) (g : Nat → Nat) (hg : ∀ b, nt4 (g b) = nt4 b) :
    specKmers k (s.map g) = specKmers k s := by
  have hm : ∀ w : List Nat, (w.map g).map nt4 = w.map nt4 := fun w => by
    rw [List.map_map]
    exact List.map_congr_left fun b _ => hg b
  have hc : ∀ w : List Nat, (w.map g).all clean = w.all clean := fun w => by
    rw [List.all_map]
    congr 1
    funext b
    show decide (nt4 (g b) < 4) = decide (nt4 b < 4)
    rw [hg]
  unfold specKmers
  rw [List.length_map]
  apply List.filterMap_congr
  intro i _
  rw [window_map, hc]
  unfold enc rcEnc
  rw [hm]

theorem nt4_lowerNuc (b : Nat) : nt4 (lowerNuc b) = nt4 b := by
  unfold lowerNuc
  split
  · rename_i h
    rcases h with rfl | rfl | rfl | rfl | rfl <;> decide
  · rfl

theorem nt4_upperNuc (b : Nat) : nt4 (upperNuc b) = nt4 b := by
  unfold upperNuc
  split
  · rename_i h
    rcases h with rfl | rfl | rfl | rfl | rfl <;> decide
  · rfl

theorem nt4_tToU (b : Nat) : nt4 (tToU b) = nt4 b := by
  unfold tToU
  split
  · rename_i h; subst h; decide
  · split
    · rename_i h; subst h; decide
    · rfl

example : lowerNuc 84 = 116 ∧ upperNuc 117 = 85 ∧ tToU 84 = 85 ∧ tToU 116 = 117 ∧ lowerNuc 78 = 78 := by decide +kernel
example : [65,67,78,71,84,84].map lowerNuc = [97,99,78,103,116,116] ∧
    specKmers 2 [97,99,78,103,116,116] = specKmers 2 [65,67,78,71,84,84] := by decide +kernel

theorem oligoRowSpec_case_U (k : Nat) (s : List Nat) :
    oligoRowSpec k (s.map lowerNuc) = oligoRowSpec k s ∧ oligoRowSpec k (s.map upperNuc) = oligoRowSpec k s ∧
    oligoRowSpec k (s.map tToU) = oligoRowSpec k s :=
  ⟨Vec.oligoRowSpec_congr (specKmers_map_congr k s lowerNuc nt4_lowerNuc),
   Vec.oligoRowSpec_congr (specKmers_map_congr k s upperNuc nt4_upperNuc),
   Vec.oligoRowSpec_congr (specKmers_map_congr k s tToU nt4_tToU)⟩

example : oligoRowSpec 2 ([65,67,78,71,84,84].map tToU) = [1, 2, 0, 0, 0, 0, 0, 0, 0, 0] := by decide +kernel

end KT
