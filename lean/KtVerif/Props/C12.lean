import KtVerif.Spec.Vectors
import KtVerif.Model.Vectors
import KtVerif.Proofs.VecCgr
/-!
# C12: the k-mer chaos-game row (`OligoCgrComputer::vectorise_one`)

One `(x, y, f)` triple per canonical k-mer column: `(x, y)` is the end point of the chaos-game walk
over the column's k-mer text, `f` the oligo value of the column.  Helpers are in
`KtVerif/Proofs/VecCgr.lean` (namespace `KT.Vec`); `Vec.oligoCgrRow_cols` there is the list-level form of
`oligoCgrRow_spec` (`row.map (fun t => some (t.1, t.2.1)) = (canonList k).map (end point)` and
`row.map (·.2.2) = oligoVec …`).
-/
namespace KT

-- the binder `hj` in the statement of `oligoCgrRow_spec` is not referenced in its conclusion
set_option linter.unusedVariables false

/-- the end point of the walk is the last point of the whole-sequence CGR of the same text (or the start point for the empty text) -/
theorem cgrEndLoop_eq_last (S : Nat) (p : Nat × Nat) (t : List Nat) :
    cgrEndLoop S p t = (cgrLoop S p t).map fun l => l.getLastD p := by
  rw [Fl.cgrEndLoop_eq_walk, Fl.cgrLoop_eq_walk]

-- coordinates are doubles scaled by 2^1074: (10, 14) · 2^1072 is the point (2.5, 3.5) of the 4 × 4 square
example : cgrEndLoop 4 (cgrCentre 4) [67, 71] = some (10 * 2 ^ 1072, 14 * 2 ^ 1072) ∧
    cgrLoop 4 (cgrCentre 4) [67, 71] = some [(4 * 2 ^ 1072, 12 * 2 ^ 1072), (10 * 2 ^ 1072, 14 * 2 ^ 1072)] := by
  decide +kernel
example : cgrEndLoop 4 (cgrCentre 4) [] = some (8 * 2 ^ 1072, 8 * 2 ^ 1072) ∧ cgrLoop 4 (cgrCentre 4) [] = some [] := by
  decide +kernel
example : cgrEndLoop 4 (cgrCentre 4) [67, 78] = none ∧ cgrLoop 4 (cgrCentre 4) [67, 78] = none := by
  decide +kernel

theorem oligoCgrRow_isSome (k S : Nat) (norm : Bool) (s : List Nat) (hk : k ≤ 31) :
    (oligoCgrRow (kmerPosMaps k) k S norm s).isSome = true := by
  rw [Vec.oligoCgrRow_eq, Vec.texts_eq k hk, Option.isSome_iff_ne_none, Ne, mapM_eq_none]
  rintro ⟨tf, htf, hn⟩
  obtain ⟨x, _, hx⟩ := List.mem_map.1 (List.of_mem_zip htf).1
  exact Vec.cgrCell_ne_none (hx ▸ decodeSpec_alphabet k x) hn

/-- triple j = (CGR end point of column j's k-mer text, oligo value of column j) -/
theorem oligoCgrRow_spec (k S : Nat) (norm : Bool) (s : List Nat) (hk1 : 1 ≤ k) (hk : k ≤ 31)
    (row : List (Nat × Nat × Nat)) (h : oligoCgrRow (kmerPosMaps k) k S norm s = some row) :
    row.length = (canonList k).length ∧
    row.map (fun t => t.2.2) = oligoVec (kmerPosMaps k) k norm s ∧
    ∀ j (hj : j < row.length), cgrEndLoop S (cgrCentre S) (decodeSpec k ((canonList k).getD j 0)) = some ((row.getD j (0,0,0)).1, (row.getD j (0,0,0)).2.1) := by
  obtain ⟨hc, hv⟩ := Vec.oligoCgrRow_cols k S norm s hk1 hk row h
  have hlen : row.length = (canonList k).length := by
    rw [← List.length_map (as := row), hc, List.length_map]
  refine ⟨hlen, hv, fun j hj => ?_⟩
  have hj' : j < (canonList k).length := hlen ▸ hj
  -- both `getD` are in range; what is left is entry `j` of `hc`
  rw [List.getD_eq_getElem?_getD, List.getD_eq_getElem?_getD, List.getElem?_eq_getElem hj, List.getElem?_eq_getElem hj']
  have := List.getElem_of_eq hc (by rw [List.length_map]; exact hj)
  rw [List.getElem_map, List.getElem_map] at this
  exact this.symm

/-- the coordinates do not depend on the record or on the normalisation flag -/
theorem oligoCgrRow_coords_record_independent (k S : Nat) (n1 n2 : Bool) (s1 s2 : List Nat) (hk1 : 1 ≤ k) (hk : k ≤ 31)
    (r1 r2 : List (Nat × Nat × Nat))
    (h1 : oligoCgrRow (kmerPosMaps k) k S n1 s1 = some r1) (h2 : oligoCgrRow (kmerPosMaps k) k S n2 s2 = some r2) :
    r1.map (fun t => (t.1, t.2.1)) = r2.map (fun t => (t.1, t.2.1)) := by
  have e1 := (Vec.oligoCgrRow_cols k S n1 s1 hk1 hk r1 h1).1
  have e2 := (Vec.oligoCgrRow_cols k S n2 s2 hk1 hk r2 h2).1
  apply List.map_injective_iff.2 (Option.some_injective _)
  rw [List.map_map, List.map_map]
  exact e1.trans e2.symm

-- the hypotheses `h`, `h1`, `h2` are satisfiable (`kmerPosMaps` goes through `mergeSort`, so the model
-- side is reached through the theorems): a row exists, has one triple per column, and its first
-- triple carries the end point of the text "A" (column 0 of k = 1)
example : ∃ row, oligoCgrRow (kmerPosMaps 1) 1 4 false [65, 67, 71] = some row ∧ row.length = 2 ∧
    ((row.getD 0 (0,0,0)).1, (row.getD 0 (0,0,0)).2.1) = (4 * 2 ^ 1072, 4 * 2 ^ 1072) := by
  have hs := oligoCgrRow_isSome 1 4 false [65, 67, 71] (by decide)
  obtain ⟨row, hrow⟩ := Option.isSome_iff_exists.1 hs
  obtain ⟨hl, _, hc⟩ := oligoCgrRow_spec 1 4 false [65, 67, 71] (by decide) (by decide) row hrow
  have hl2 : row.length = 2 := hl
  refine ⟨row, hrow, hl2, ?_⟩
  have h0 := hc 0 (by omega)
  have hA : cgrEndLoop 4 (cgrCentre 4) (decodeSpec 1 ((canonList 1).getD 0 0)) = some (4 * 2 ^ 1072, 4 * 2 ^ 1072) := by
    decide +kernel
  rw [hA] at h0
  exact (Option.some.inj h0).symm
example : (canonList 1).length = 2 ∧ decodeSpec 1 ((canonList 1).getD 0 0) = [65] ∧
    decodeSpec 1 ((canonList 1).getD 1 0) = [67] := by decide +kernel

end KT
