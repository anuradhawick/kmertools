import KtVerif.Spec.EndToEnd
import KtVerif.Proofs.E2E
/-!
# End to end: the per-layer theorems composed into statements about whole runs

C04 (row = specification row) + C05 (any schedule / any batch limit) + C14 (row length = mapping
row size, for any delimiter and any record length) for the oligo vector writers; C07 chunk level
(any schedule per chunk) + merge (any partition count, any line order) for the counter.
-/
namespace KT

theorem oligoRowSpec_le_total (k : Nat) (s : List Nat) (hk1 : 1 ≤ k) : ∀ c ∈ oligoRowSpec k s, c ≤ windowCount k s := by
  have _ := hk1  -- also holds for k = 0
  intro c hc
  -- a cell is the number of windows with one canonical code
  rw [Vec.oligoRowSpec_eq_hits] at hc
  obtain ⟨x, _, rfl⟩ := List.mem_map.mp hc
  exact List.length_filter_le _ _

/-- the row the code writes is the row of the specification -/
theorem oligoRowText_eq_spec (k : Nat) (norm : Bool) (delim s : List Nat) (hk1 : 1 ≤ k) (hk : k ≤ 31) :
    oligoRowText (kmerPosMaps k) k norm delim s = rowText norm delim (oligoRowSpec k s) (windowCount k s) := by
  unfold oligoRowText
  rw [oligoCounts_eq_spec k s hk1 hk]

/-- every normalised row of the oligo writer has the length the mapping is sized with, for any delimiter and any record -/
theorem oligoRowText_length (k : Nat) (delim s : List Nat) (hk1 : 1 ≤ k) (hk : k ≤ 31) :
    (oligoRowText (kmerPosMaps k) k true delim s).length = perLineSize (kmerPosMaps k).kcount delim.length := by
  rw [oligoRowText_eq_spec k true delim s hk1 hk,
    rowText_norm_length delim _ _ (E2E.oligoRowSpec_ne_nil k s)
      (E2E.cell8 _ _ (oligoRowSpec_le_total k s hk1)),
    oligoRowSpec_length, kcount_eq k hk]

/-- the batched writer, any batch limit, normalised or raw -/
theorem oligo_batch_end_to_end (k limit : Nat) (hk1 : 1 ≤ k) (hk : k ≤ 31) (header norm : Bool) (delim : List Nat)
    (recs : List (List Nat)) :
    oligoHeaderBytes k header delim ++ batchOutput limit List.length (oligoRowText (kmerPosMaps k) k norm delim) recs =
      (if header then joinBytes delim (headerSpec k) ++ [10] else []) ++
      (recs.map fun s => rowText norm delim (oligoRowSpec k s) (windowCount k s)).flatten := by
  have hrow : oligoRowText (kmerPosMaps k) k norm delim =
      fun s => rowText norm delim (oligoRowSpec k s) (windowCount k s) :=
    funext fun s => oligoRowText_eq_spec k norm delim s hk1 hk
  unfold oligoHeaderBytes
  rw [batchOutput_eq, hrow, header_eq_spec k hk]

/-- C04 + C05 + C14 end to end: for every schedule of the memory-mapped writer, every k in 1..=31, any delimiter, header or
    not, the file is exactly the specified file (header of canonical k-mers, then one row per record in input order) -/
theorem oligo_mmap_end_to_end (k T : Nat) (hk1 : 1 ≤ k) (hk : k ≤ 31) (hT : 0 < T) (header : Bool) (delim : List Nat)
    (recs : List (List Nat)) (sched : List GStep) (s' : GSys Cells)
    (hr : GSys.run recs.length
            (mmapEff (oligoHeaderBytes k header delim).length
              (fun n => (recs.map (oligoRowText (kmerPosMaps k) k true delim)).getD n []))
            (GSys.init T (mmapInit (mmapSize recs.length (kmerPosMaps k).kcount delim.length (oligoHeaderBytes k header delim).length)
                            (oligoHeaderBytes k header delim))) sched = some s')
    (ht : s'.terminal = true) :
    s'.sh = (oligoFileSpec k header delim recs).map some := by
  -- the mapped file is the batched file (`paths_agree`; every row has the mapping's row size)
  rw [paths_agree T hT _ recs _ _ 0 (fun r _ => oligoRowText_length k delim r hk1 hk) sched s' hr ht,
    oligo_batch_end_to_end k 0 hk1 hk header true delim recs]
  rfl

/-- C07 end to end, chunk level: whatever the schedules of the successive chunks, the tables of the chunks together hold
    exactly the canonical k-mers of all records (as a multiset), each record counted in exactly one chunk -/
theorem count_chunks_end_to_end (N limit T : Nat) (hT : 0 < T) (kms : Nat → List Nat) (len : Nat → Nat)
    (chunks : List CSys) (h : ChunkRuns N limit T kms len 0 chunks) :
    (chunks.flatMap fun s => s.table).Perm ((List.range N).flatMap kms) ∧
    (chunks.flatMap fun s => s.taken) = List.range N := by
  obtain ⟨hp, ht⟩ := E2E.chunks_from N limit T hT kms len 0 chunks h (Nat.zero_le N)
  rw [Nat.sub_zero, ← List.range_eq_range'] at ht
  exact ⟨ht ▸ hp, ht⟩

/-- C07 end to end: chunk runs under any schedules, any partition count P ≥ 1, any line order inside the dumped chunk files
    ⇒ the merged counts file is the table of the canonical k-mers of the whole input -/
theorem count_end_to_end (k N limit T P : Nat) (hT : 0 < T) (hP : 1 ≤ P) (recs : Nat → List Nat) (len : Nat → Nat)
    (chunks : List CSys) (h : ChunkRuns N limit T (fun n => canons k (recs n)) len 0 chunks)
    (files : Nat → List (List (Nat × Nat)))
    (hfiles : ∀ p, p < P → (files p).length = chunks.length ∧
        ∀ i (hi : i < chunks.length) (hi' : i < (files p).length),
          IsTableOf ((files p)[i]) ((chunks[i]).table.filter fun y => partOf P y == p)) :
    IsTableOf ((List.range P).flatMap fun p => mergeTables (files p)) ((List.range N).flatMap fun n => canons k (recs n)) := by
  have hm := count_merge_exact P hP (chunks.map fun s => s.table) files (by
    intro p hp
    obtain ⟨hl, ht⟩ := hfiles p hp
    refine ⟨by rw [List.length_map]; exact hl, ?_⟩
    intro i hi hi'
    rw [List.getElem_map]
    exact ht i (by rw [List.length_map] at hi; exact hi) hi')
  have hp := (count_chunks_end_to_end N limit T hT (fun n => canons k (recs n)) len chunks h).1
  rw [← List.flatMap_def] at hm
  exact Cnt.isTableOf_perm hp hm

/-! ## non-vacuity: a two-chunk counting run (3 records, 2 workers, limit 1) satisfies `ChunkRuns` -/

example : ChunkRuns 3 1 2 (fun n => [n, n + 10]) (fun _ => 2) 0
    [{ next := 2, soFar := 4, ws := [.done, .done], table := [1, 11, 0, 10], taken := [0, 1] },
     { next := 3, soFar := 2, ws := [.done, .done], table := [2, 12], taken := [2] }] :=
  .step 0 c07Sched _ _ (by decide) rfl rfl
    (.step 2 [.check 0, .take 0, .count 0, .addlen 0, .check 0, .check 1] _ _ (by decide) rfl rfl .done)

end KT
