import KtVerif.Model.RowParse
import KtVerif.Model.Vectors
import KtVerif.Props.Display
import KtVerif.Proofs.RowParse
/-!
# A written CGR row reads back as exactly the doubles that were computed

Helpers are in `KtVerif/Proofs/RowParse.lean` (namespace `KT.Rp`).
`cgrRowText` / `oligoCgrRowText` are the lines `kmertools comp cgr` writes, `parseCgrRow` / `parseOligoCgrRow` the
readers of that syntax (`Model/RowParse.lean`), `IsF64` the scaled doubles (`Proofs/Float.lean`).
-/
namespace KT

/-- a printed number consists of digits and '.', so it contains none of the bytes that structure a row -/
theorem f64Display_chars (n : Nat) : ∀ c ∈ f64Display n, (48 ≤ c ∧ c ≤ 57) ∨ c = 46 :=
  Rp.f64Display_chars n

theorem f64Display_ne_nil (n : Nat) : f64Display n ≠ [] := by
  unfold f64Display
  split
  · exact List.cons_ne_nil _ _
  · rcases shortestDec n with ⟨D, e⟩
    exact Rp.positional_ne_nil D e

/-- reading a written whole-sequence CGR row gives back exactly the points -/
theorem parseCgrRow_cgrRowText (pts : List (Nat × Nat)) (h : ∀ p ∈ pts, IsF64 p.1 ∧ IsF64 p.2) :
    parseCgrRow (cgrRowText pts) = some pts := by
  unfold parseCgrRow cgrRowText
  rw [Rp.parseRowTuples_tuples (fun p : Nat × Nat => [p.1, p.2]) _ ?_ pts (fun _ _ => List.cons_ne_nil _ _) ?_]
  · exact mapM_map_of_inv _ _ pts fun p _ => rfl
  · intro p
    simp [Rp.tupleText, Rp.joinBy]
  · exact fun p hp => List.forall_mem_cons.2 ⟨(h p hp).1, List.forall_mem_singleton.2 (h p hp).2⟩

/-- …and a k-mer CGR row gives back exactly the triples -/
theorem parseOligoCgrRow_oligoCgrRowText (ts : List (Nat × Nat × Nat))
    (h : ∀ t ∈ ts, IsF64 t.1 ∧ IsF64 t.2.1 ∧ IsF64 t.2.2) :
    parseOligoCgrRow (oligoCgrRowText ts) = some ts := by
  unfold parseOligoCgrRow oligoCgrRowText
  rw [Rp.parseRowTuples_tuples (fun t : Nat × Nat × Nat => [t.1, t.2.1, t.2.2]) _ ?_ ts (fun _ _ => List.cons_ne_nil _ _) ?_]
  · exact mapM_map_of_inv _ _ ts fun t _ => rfl
  · intro t
    simp [Rp.tupleText, Rp.joinBy]
  · exact fun t ht => List.forall_mem_cons.2 ⟨(h t ht).1, List.forall_mem_cons.2
      ⟨(h t ht).2.1, List.forall_mem_singleton.2 (h t ht).2.2⟩⟩

/-- every coordinate the double-precision walk produces is a double (so the hypothesis above is met by the real rows) -/
theorem cgrF64_points_isF64 (S : Nat) (s : List Nat) (pts : List (Nat × Nat)) (h : cgrF64 S s = some pts) :
    ∀ p ∈ pts, IsF64 p.1 ∧ IsF64 p.2 :=
  Rp.cgrF64_points_isF64 S s pts h

/-- end to end: the line written for a record reads back as the walk of that record -/
theorem cgr_row_roundtrip (S : Nat) (s : List Nat) (pts : List (Nat × Nat)) (h : cgrF64 S s = some pts) :
    parseCgrRow (cgrRowText pts) = some pts :=
  parseCgrRow_cgrRowText pts (cgrF64_points_isF64 S s pts h)

/-! ## non-vacuity -/

example : splitOnByte 44 [49, 44, 50] = [[49], [50]] := by decide +kernel

example : splitOnByte 32 [32] = [[], []] := by decide +kernel

example : splitOnByte 44 [] = [[]] := by decide +kernel

example : parseTuple [40, 49, 44, 50, 41] = some [decToF64 1 0, decToF64 2 0] := by rfl

example : parseTuple [40, 49, 44, 50] = none := by decide +kernel

example : parseTuple [49, 44, 50, 41] = none := by decide +kernel

example : parseCgrRow [10] = some [] := by decide +kernel

example : parseOligoCgrRow [10] = some [] := by decide +kernel

example : parseCgrRow [] = none := by decide +kernel

example : parseCgrRow [40, 49, 44, 50, 41, 10] = some [(decToF64 1 0, decToF64 2 0)] := by rfl

/-- a triple is not a point -/
example : parseCgrRow [40, 49, 44, 50, 44, 51, 41, 10] = none := by rfl

/-- the empty record: an empty line, read back as no points -/
example : parseCgrRow (cgrRowText []) = some [] := by decide +kernel

/-- the hypothesis of `cgr_row_roundtrip` is met by the empty text (for which the walk has no points) -/
example (S : Nat) : cgrF64 S [] = some [] := rfl

end KT
