import KtVerif.Model.Minimiser
import KtVerif.Proofs.KMinSim
import KtVerif.Proofs.KMinLedger
/-!
# C18: the k-mer-reporting minimiser iterator

Same runs as the plain minimiser iterator, and the k-mer lists attached to the runs concatenate
to the canonical w-mers of the record (nothing lost, nothing duplicated, order kept).
-/
namespace KT

/-- the k-mer-reporting iterator yields the same (minimiser, start, end) runs as the plain one -/
theorem kmg_runs_eq_minGen (w m : Nat) (s : List Nat) :
    (kmerMinimisers w m s).map (fun r => (r.1, r.2.1, r.2.2.1)) = minimisers w m s :=
  KMin.proj_run w m s.length s 0 KMG.init

/-- the concatenation of the attached k-mer lists is the sequence of canonical w-mers of the input -/
theorem kmg_conserves (w m : Nat) (s : List Nat) (hm1 : 1 ≤ m) (hmw : m ≤ w) (hw : w ≤ 31) :
    (kmerMinimisers w m s).flatMap (fun r => r.2.2.2) = canons w s :=
  KMin.conserves hm1 hmw hw s

example : kmerMinimisers 3 2 [65,67,71,84,78,65,67,71,84,84,65] =
    [(1,0,4,[6,6]),(1,5,9,[6,6,1]),(0,7,11,[48])] := by decide +kernel
example : minimisers 3 2 [65,67,71,84,78,65,67,71,84,84,65] = [(1,0,4),(1,5,9),(0,7,11)] := by decide +kernel
example : canons 3 [65,67,71,84,78,65,67,71,84,84,65] = [6,6,6,6,1,48] := by decide +kernel
example : (kmerMinimisers 3 2 [65,67,71,84,78,65,67,71,84,84,65]).flatMap (fun r => r.2.2.2) =
    [6,6,6,6,1,48] := by decide +kernel
-- across an ambiguous byte (w = m): the w-mer 4 leaves with the run of minimiser 1, the last run carries nothing
example : kmerMinimisers 2 2 [84,84,78,65,67,65] = [(0,0,2,[0]),(1,3,5,[1,4]),(4,4,6,[])] := by decide +kernel
example : canons 2 [84,84,78,65,67,65] = [0,1,4] := by decide +kernel

end KT
