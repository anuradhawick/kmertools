import KtVerif.Spec.Cli
import KtVerif.Proofs.CliFS
/-!
# C17: the output files on disk do not depend on what was there before

`FS` is an association list path ↦ content; `write` is create-or-truncate-then-write, `delete` removes.
A `ctr` run is the counting phase (every chunk dumps every partition) followed by the merge (reads
`part < P, chunk < C`, writes the counts table, deletes what it read); a `cov` run adds the vectors
file.
-/
namespace KT

theorem write_read (fs : FS) (p : Path) (c : List Nat) : (fs.write p c).read p = some c := by
  rw [Cl.read_write, if_pos rfl]

theorem write_read_other (fs : FS) (p q : Path) (c : List Nat) (h : q ≠ p) : (fs.write p c).read q = fs.read q := by
  rw [Cl.read_write, if_neg h]

theorem delete_read (fs : FS) (p : Path) : (fs.delete p).read p = none := by
  rw [Cl.read_delete, if_pos rfl]

theorem delete_read_other (fs : FS) (p q : Path) (h : q ≠ p) : (fs.delete p).read q = fs.read q := by
  rw [Cl.read_delete, if_neg h]

example : (FS.write [(.out, [1]), (.other 0, [2]), (.out, [3])] .out [9]) = [(.out, [9]), (.other 0, [2])] := by decide +kernel
example : (FS.delete [(.out, [1]), (.other 0, [2]), (.out, [3])] .out).read .out = none := by decide +kernel
example : (FS.read [(.out, [1]), (.out, [3])] .out) = some [1] := by decide +kernel

/-- a single-file subcommand: the output file does not depend on what was there before -/
theorem fileRun_independent (content : List Nat) (fs fs' : FS) : (fileRun content fs).read .out = (fileRun content fs').read .out := by
  unfold fileRun
  rw [write_read, write_read]

example : (fileRun [7, 8] [(.out, [1, 2, 3, 4, 5])]).read .out = some [7, 8] ∧ (fileRun [7, 8] []).read .out = some [7, 8] := by
  decide +kernel

/-- every temporary file that merge reads was written by the counting phase of THIS run -/
theorem reads_own_writes (P C : Nat) (dump : Nat → Nat → List Nat) (fs : FS) (p c : Nat) (hp : p < P) (hc : c < C) :
    (countPhase P C dump fs).read (.temp p c) = some (dump p c) :=
  Cl.read_countPhase_temp P C dump fs p c hp hc

theorem mem_mergeReads (P C : Nat) (q : Path) : q ∈ mergeReads P C ↔ ∃ p c, p < P ∧ c < C ∧ q = .temp p c :=
  Cl.mem_mergeReads P C q

example : mergeReads 2 2 = [.temp 0 0, .temp 0 1, .temp 1 0, .temp 1 1] := by decide +kernel
example : mergeReads 0 3 = [] ∧ mergeReads 3 0 = [] := by decide +kernel

/-- the table is the combination of exactly this run's dumps -/
theorem ctrRun_counts (P C : Nat) (dump : Nat → Nat → List Nat) (combine : List (Option (List Nat)) → List Nat) (fs : FS) :
    (ctrRun P C dump combine fs).read .counts =
      some (combine ((List.range P).flatMap fun p => (List.range C).map fun c => some (dump p c))) :=
  Cl.ctrRunD_counts P C true dump combine fs

/-- the counts table does not depend on the initial disk state (stale tables, left-over chunk files of runs with more chunks or partitions) -/
theorem ctrRun_result_independent (P C : Nat) (dump : Nat → Nat → List Nat) (combine : List (Option (List Nat)) → List Nat) (fs fs' : FS) :
    (ctrRun P C dump combine fs).read .counts = (ctrRun P C dump combine fs').read .counts := by
  rw [ctrRun_counts, ctrRun_counts]

/-- no temporary chunk file of this run survives the merge -/
theorem ctrRun_no_temp_left (P C : Nat) (dump : Nat → Nat → List Nat) (combine : List (Option (List Nat)) → List Nat) (fs : FS)
    (p c : Nat) (hp : p < P) (hc : c < C) : (ctrRun P C dump combine fs).read (.temp p c) = none := by
  unfold ctrRun
  rw [Cl.read_mergePhase, if_pos ⟨rfl, (mem_mergeReads P C _).mpr ⟨p, c, hp, hc, rfl⟩⟩]

/-- files the run does not own are left alone -/
theorem ctrRun_other_untouched (P C : Nat) (dump : Nat → Nat → List Nat) (combine : List (Option (List Nat)) → List Nat) (fs : FS) (n : Nat) :
    (ctrRun P C dump combine fs).read (.other n) = fs.read (.other n) := by
  unfold ctrRun
  rw [Cl.read_mergePhase, if_neg (fun h => Cl.other_notin_mergeReads P C n h.2), if_neg (by simp),
    Cl.read_countPhase_nontemp _ _ _ _ _ (by simp)]

theorem covRun_result_independent (P C : Nat) (dump : Nat → Nat → List Nat) (combine : List (Option (List Nat)) → List Nat)
    (vectors : Option (List Nat) → List Nat) (fs fs' : FS) :
    (covRun P C dump combine vectors fs).read .vectors = (covRun P C dump combine vectors fs').read .vectors ∧
    (covRun P C dump combine vectors fs).read .counts = (covRun P C dump combine vectors fs').read .counts := by
  unfold covRun
  constructor
  · rw [write_read, write_read, ctrRun_result_independent P C dump combine fs fs']
  · rw [write_read_other _ _ _ _ (by decide), write_read_other _ _ _ _ (by decide),
      ctrRun_result_independent P C dump combine fs fs']

/-- running the same command twice gives the same result files as running it once -/
theorem ctrRun_idempotent (P C : Nat) (dump : Nat → Nat → List Nat) (combine : List (Option (List Nat)) → List Nat) (fs : FS) :
    (ctrRun P C dump combine (ctrRun P C dump combine fs)).read .counts = (ctrRun P C dump combine fs).read .counts :=
  ctrRun_result_independent P C dump combine _ fs

/-! ## library histories: `count(); merge(delete)` for any `delete`, repeated runs in one directory -/

theorem ctrRunD_true (P C : Nat) (dump : Nat → Nat → List Nat) (combine : List (Option (List Nat)) → List Nat) (fs : FS) :
    ctrRunD P C true dump combine fs = ctrRun P C dump combine fs := rfl

/-- whatever `delete` is and whatever was on the disk (stale tables, chunk files an earlier `merge(false)` left behind,
of runs with more partitions or chunks): the table is the one a fresh directory would get -/
theorem ctrRunD_result_independent (P C : Nat) (d : Bool) (dump : Nat → Nat → List Nat)
    (combine : List (Option (List Nat)) → List Nat) (fs fs' : FS) :
    (ctrRunD P C d dump combine fs).read .counts = (ctrRunD P C d dump combine fs').read .counts := by
  rw [Cl.ctrRunD_counts, Cl.ctrRunD_counts]

/-- …and it does not depend on `delete` either -/
theorem ctrRunD_result_delete_irrelevant (P C : Nat) (d d' : Bool) (dump : Nat → Nat → List Nat)
    (combine : List (Option (List Nat)) → List Nat) (fs : FS) :
    (ctrRunD P C d dump combine fs).read .counts = (ctrRunD P C d' dump combine fs).read .counts := by
  rw [Cl.ctrRunD_counts, Cl.ctrRunD_counts]

/-- a history of two library runs in one directory (any partition / chunk counts, any delete flags): the table is that
of the last run alone in an empty directory -/
theorem ctr_history_two (P1 C1 P2 C2 : Nat) (d1 d2 : Bool) (dump1 dump2 : Nat → Nat → List Nat)
    (combine1 combine2 : List (Option (List Nat)) → List Nat) (fs : FS) :
    (ctrRunD P2 C2 d2 dump2 combine2 (ctrRunD P1 C1 d1 dump1 combine1 fs)).read .counts
      = (ctrRunD P2 C2 d2 dump2 combine2 []).read .counts :=
  ctrRunD_result_independent P2 C2 d2 dump2 combine2 _ []

/-- the same object asked again after `merge(false)`: its second `count()` finds no records (nothing is dumped), the second
merge reads the chunk files the first one kept — the table is the same, for any rendering `combine'` applied to the same inputs -/
theorem remerge_after_keep (P C : Nat) (d : Bool) (dump : Nat → Nat → List Nat)
    (combine combine' : List (Option (List Nat)) → List Nat) (fs : FS) :
    (mergePhase P C d combine' (ctrRunD P C false dump combine fs)).read .counts
      = (ctrRunD P C d dump combine' fs).read .counts :=
  Cl.remerge_after_keep P C d dump combine combine' fs

/-- after `merge(false)` every chunk file of the run is still there with what the run dumped -/
theorem ctrRunD_keep_temp (P C : Nat) (dump : Nat → Nat → List Nat) (combine : List (Option (List Nat)) → List Nat) (fs : FS)
    (p c : Nat) (hp : p < P) (hc : c < C) : (ctrRunD P C false dump combine fs).read (.temp p c) = some (dump p c) :=
  Cl.ctrRunD_keep_temp P C dump combine fs p c hp hc

/-! ## non-vacuity: a disk holding a stale table, stale chunk files of a larger run, and a bystander -/

/-- the dump of (partition, chunk) and a `combine` that concatenates what it could read (a missing file shows as 99) -/
def exDump (p c : Nat) : List Nat := [10 * p + c]
def exCombine (l : List (Option (List Nat))) : List Nat := l.flatMap fun o => o.getD [99]
def exStale : FS := [(.counts, [5, 5, 5]), (.temp 0 0, [77]), (.temp 1 1, [78]), (.temp 2 0, [79]), (.temp 0 3, [80]), (.other 4, [1])]

example : ctrRun 2 2 exDump exCombine exStale =
    [(.counts, [0, 1, 10, 11]), (.temp 2 0, [79]), (.temp 0 3, [80]), (.other 4, [1])] := by decide +kernel
example : (ctrRun 2 2 exDump exCombine exStale).read .counts = (ctrRun 2 2 exDump exCombine []).read .counts := by decide +kernel
example : (ctrRun 2 2 exDump exCombine exStale).read (.temp 1 1) = none ∧
    (ctrRun 2 2 exDump exCombine exStale).read (.other 4) = some [1] := by decide +kernel
/-- chunk files outside `part < P, chunk < C` are neither read nor deleted -/
example : (ctrRun 2 2 exDump exCombine exStale).read (.temp 2 0) = some [79] := by decide +kernel
/-- degenerate: no partitions or no chunks — the table is `combine []`, nothing is deleted -/
example : ctrRun 0 3 exDump exCombine exStale = (.counts, []) :: exStale.tail ∧
    (ctrRun 3 0 exDump exCombine exStale).read .counts = some [] := by decide +kernel
example : (covRun 2 1 exDump exCombine (fun o => o.getD [] ++ [0]) exStale).read .vectors = some [0, 10, 0] ∧
    (covRun 2 1 exDump exCombine (fun o => o.getD [] ++ [0]) exStale).read .counts = some [0, 10] := by decide +kernel
/-- without the counting phase the merge WOULD read stale files: the counting phase is what makes the result independent -/
example : (mergePhase 2 2 true exCombine exStale).read .counts = some [77, 99, 99, 78] := by decide +kernel
/-- library histories: a first run with 4 partitions and `merge(false)` on a disk with a stale chunk file of this run's
range (`.temp 0 0`), one outside it (`.temp 3 0`) and a stale table; then a 2-partition run — the table is the second run's alone,
and the first run's left-over chunk files outside `part < 2` are still there -/
def exStale2 : FS := [(.temp 0 0, [77]), (.temp 3 0, [78]), (.counts, [5, 5, 5])]
example : (ctrRunD 2 1 false exDump exCombine (ctrRunD 4 1 false (fun p c => [100 + p + c]) exCombine exStale2)).read .counts = some [0, 10] ∧
    (ctrRunD 2 1 false exDump exCombine []).read .counts = some [0, 10] ∧
    (ctrRunD 2 1 true exDump exCombine exStale2).read .counts = some [0, 10] := by decide +kernel
example : ctrRunD 2 1 false exDump exCombine exStale2 = [(.counts, [0, 10]), (.temp 1 0, [10]), (.temp 0 0, [0]), (.temp 3 0, [78])] ∧
    ctrRunD 2 1 true exDump exCombine exStale2 = [(.counts, [0, 10]), (.temp 3 0, [78])] := by decide +kernel
/-- re-merge after `merge(false)` reads the kept chunk files; after `merge(true)` it would find nothing (99 = missing) -/
example : (mergePhase 2 1 true exCombine (ctrRunD 2 1 false exDump exCombine exStale2)).read .counts = some [0, 10] ∧
    (mergePhase 2 1 true exCombine (ctrRunD 2 1 true exDump exCombine exStale2)).read .counts = some [99, 99] := by decide +kernel

end KT
