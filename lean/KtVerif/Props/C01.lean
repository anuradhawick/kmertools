import KtVerif.Model.Kmer
import KtVerif.Proofs.KmerRegs
/-!
# C01: the k-mer generator emits exactly the clean windows, in order
-/
namespace KT

theorem kmerGen_eq_spec (k : Nat) (s : List Nat) (hk1 : 1 ≤ k) (hk : k ≤ 31) : kmers k s = specKmers k s := by
  have := run_stOf hk1 hk s []
  rwa [stOf_nil, specKmers_of_short (s := []) hk1, List.nil_append, List.nil_append] at this

example : kmers 2 [65,67,78,71,84,84] = [(1,11),(11,1),(15,0)] := by decide +kernel
example : specKmers 2 [65,67,78,71,84,84] = [(1,11),(11,1),(15,0)] := by decide +kernel

theorem specKmers_eq_map_starts (k : Nat) (s : List Nat) :
    specKmers k s = (specKmerStarts k s).map fun i => (enc (window k s i), rcEnc (window k s i)) :=
  filterMap_ite_eq_map_filter _ _ _

example : specKmerStarts 2 [65,67,78,71,84,84] = [0,3,4] := by decide +kernel

theorem specKmerStarts_sorted (k : Nat) (s : List Nat) : (specKmerStarts k s).Pairwise (· < ·) :=
  List.Pairwise.sublist List.filter_sublist List.pairwise_lt_range

theorem mem_specKmerStarts (k : Nat) (s : List Nat) (i : Nat) (hk1 : 1 ≤ k) :
    i ∈ specKmerStarts k s ↔ (i + k ≤ s.length ∧ ∀ j, i ≤ j → j < i + k → clean (s.getD j 0) = true) := by
  have _ := hk1  -- the equivalence also holds for k = 0
  rw [specKmerStarts, List.mem_filter, List.mem_range, lt_starts_iff]
  exact and_congr_right fun h => window_all_clean_iff h

example : 3 ∈ specKmerStarts 2 [65,67,78,71,84,84] ∧ 1 ∉ specKmerStarts 2 [65,67,78,71,84,84] := by decide +kernel

theorem specKmers_lt (k : Nat) (s : List Nat) : ∀ p ∈ specKmers k s, p.1 < 4 ^ k ∧ p.2 < 4 ^ k := by
  intro p hp
  obtain ⟨w, hl, hc, rfl⟩ := mem_specKmers hp
  exact ⟨hl ▸ enc_lt hc, hl ▸ rcEnc_lt w⟩

theorem kmerGen_lt (k : Nat) (s : List Nat) (hk1 : 1 ≤ k) (hk : k ≤ 31) : ∀ p ∈ kmers k s, p.1 < 4 ^ k ∧ p.2 < 4 ^ k := by
  rw [kmerGen_eq_spec k s hk1 hk]; exact specKmers_lt k s

example : (15, 0) ∈ kmers 2 [65,67,78,71,84,84] := by decide +kernel

theorem clean_iff_letter (b : Nat) (hb : b < 256) : clean b = true ↔ (isNucLetter b = true ∨ b < 4) :=
  -- the byte table, row by row
  (by decide +kernel : ∀ b, b < 256 → (clean b = true ↔ (isNucLetter b = true ∨ b < 4))) b hb

example : clean 85 = true ∧ clean 2 = true ∧ clean 78 = false ∧ isNucLetter 2 = false := by decide +kernel

theorem nt4_letters : nt4 65 = 0 ∧ nt4 97 = 0 ∧ nt4 67 = 1 ∧ nt4 99 = 1 ∧ nt4 71 = 2 ∧ nt4 103 = 2 ∧ nt4 84 = 3 ∧ nt4 116 = 3 ∧ nt4 85 = 3 ∧ nt4 117 = 3 := by
  decide

/-- locality of the specification at a homopolymer prefix A^n, n ≥ k (`specKmers_append` is the general statement): the tail
`t` sees only the last k - 1 of the A's -/
theorem specKmers_homopolymer_prefix (k n : Nat) (t : List Nat) (hk1 : 1 ≤ k) (hn : k ≤ n) :
    specKmers k (List.replicate n 65 ++ t) =
      List.replicate (n - k + 1) (enc (List.replicate k 65), rcEnc (List.replicate k 65)) ++
        specKmers k (List.replicate (k - 1) 65 ++ t) := by
  have hn' : k - 1 ≤ n := Nat.le_trans (Nat.sub_le k 1) hn
  -- after the two lemmas, index arithmetic: the last k - 1 of n A's are k - 1 A's; n + 1 - k = n - k + 1
  rw [specKmers_append hk1 _ t (by rw [List.length_replicate]; exact hn'),
    specKmers_replicate k n (by decide), Min.lastN, List.drop_replicate, List.length_replicate,
    Nat.sub_add_comm hn, Nat.sub_sub_self hn']
  rfl

/-- the same for the code-shaped iterator model: forward code 0, reverse code 4^k - 1.  The correspondence run takes the
expected stream of its record of more than 2^31 bytes from this (`harness/src/p_kmer.rs`). -/
theorem kmers_homopolymer_prefix (k n : Nat) (t : List Nat) (hk1 : 1 ≤ k) (hk : k ≤ 31) (hn : k ≤ n) :
    kmers k (List.replicate n 65 ++ t) =
      List.replicate (n - k + 1) (0, 4 ^ k - 1) ++ kmers k (List.replicate (k - 1) 65 ++ t) := by
  rw [kmerGen_eq_spec k _ hk1 hk, kmerGen_eq_spec k _ hk1 hk, specKmers_homopolymer_prefix k n t hk1 hn,
    enc_replicate_A, Nat.eq_sub_of_add_eq (rcEnc_replicate_A k)]

example : kmers 2 (List.replicate 4 65 ++ [67, 78, 71]) =
    List.replicate 3 (0, 15) ++ kmers 2 (List.replicate 1 65 ++ [67, 78, 71]) := by decide +kernel

end KT
