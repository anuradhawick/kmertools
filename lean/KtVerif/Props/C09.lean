import KtVerif.Proofs.MinimiserSim
import KtVerif.Proofs.RunDecompSpec
/-!
# C09: the minimiser iterator emits exactly the maximal runs of the specification

`minimisers w m s` is the code-shaped model of `MinimiserGenerator::new(seq, w, m).collect()`;
`specRuns w m s` groups the window minimisers of the specification into maximal runs.

Both are the run machine `Min.naive`, fed byte by byte with the minimiser of the window that the
byte completes: the specification by re-indexing (`Proofs/MinimiserNaive`), the model by the
invariant `Min.InvQ` (`Proofs/MinimiserSim`, over `MinimiserWindow`, `MinimiserLeftMin` and the
registers of `KmerRegs`, which need `m ≤ 31`).
-/
namespace KT
open KT.Min

theorem minimisers_eq_specRuns (w m : Nat) (s : List Nat) (hm1 : 1 ≤ m) (hmw : m ≤ w) (hm : m ≤ 31) :
    minimisers w m s = specRuns w m s := by
  rw [specRuns_eq_naive w m s (Nat.le_trans hm1 hmw), List.range_eq_range']
  exact run_eq_naive hm1 hmw hm s s [] MG.init rfl (InvQ.reset hm1 hmw 0)

theorem specRuns_val_lt (w m : Nat) (s : List Nat) (hm1 : 1 ≤ m) (hmw : m ≤ w) :
    ∀ r ∈ specRuns w m s, r.1 < 4 ^ m := by
  intro r hr
  obtain ⟨-, hne, hall, -⟩ := (Runs.specRuns_good w m s (Nat.le_trans hm1 hmw)).ok r hr
  exact winMin_lt hmw (hall r.2.1 (Nat.le_refl _) hne)

/-- `u64::MAX`, which `m_active` holds while no run is open, is never emitted as a minimiser -/
theorem minimisers_no_placeholder (w m : Nat) (s : List Nat) (hm1 : 1 ≤ m) (hmw : m ≤ w) (hm : m ≤ 31) :
    ∀ r ∈ minimisers w m s, r.1 ≠ U64MAX := by
  intro r hr
  rw [minimisers_eq_specRuns w m s hm1 hmw hm] at hr
  exact Nat.ne_of_lt (Nat.lt_trans (specRuns_val_lt w m s hm1 hmw r hr) (pow_lt_U64MAX hm))

theorem specRuns_nil_of_short (w m : Nat) (s : List Nat) (hw : s.length < w) : specRuns w m s = [] := by
  rw [specRuns, winMins, Nat.sub_eq_zero_of_le hw]
  rfl

/-! ## non-vacuity: concrete runs, both sides evaluated -/

-- "ACGTNACGTTA", w = 3, m = 2
example : minimisers 3 2 [65,67,71,84,78,65,67,71,84,84,65] = [(1,0,4),(1,5,9),(0,7,11)] := by decide +kernel
example : specRuns 3 2 [65,67,71,84,78,65,67,71,84,84,65] = [(1,0,4),(1,5,9),(0,7,11)] := by decide +kernel
-- "AC", w = m = 1 (cap = 1: every step rescans)
example : minimisers 1 1 [65,67] = [(0,0,1),(1,1,2)] := by decide +kernel
example : specRuns 1 1 [65,67] = [(0,0,1),(1,1,2)] := by decide +kernel
-- w = m = 2, ties and an ambiguous byte first and last: "NACGTN"
example : minimisers 2 2 [78,65,67,71,84,78] = specRuns 2 2 [78,65,67,71,84,78] := by decide +kernel
example : minimisers 2 2 [78,65,67,71,84,78] = [(1,1,3),(6,2,4),(1,3,5)] := by decide +kernel
-- shorter than the window: nothing
example : minimisers 4 2 [65,67,71] = [] := by decide +kernel

end KT
