import KtVerif.Model.Sched
import KtVerif.Proofs.SchedMin
import KtVerif.Props.C05
/-!
# C10 (scheduling part): the two minimiser outputs under every schedule of the worker loop

`seq_to_min` appends one line per record under the writer lock: the output is, as a multiset of
lines, one line per record.  `bin_sequences` upserts into a concurrent map: one entry per distinct
key, whose value list holds exactly the entries of that key, records in effect order.
-/
namespace KT

/-- s2m: whatever the schedule, the output holds exactly one line per record (as a multiset of lines) -/
theorem s2m_any_schedule (N T : Nat) (hT : 0 < T) (line : Nat → List Nat) (sched : List GStep) (s' : GSys (List (List Nat)))
    (hr : GSys.run N (s2mEff line) (GSys.init T []) sched = some s') (ht : s'.terminal = true) :
    s'.sh.Perm ((List.range N).map line) := by
  obtain ⟨hp, hsh⟩ := gsys_any_schedule N T hT (s2mEff line) [] sched s' hr ht
  rw [hsh, Sch.s2m_fold, List.nil_append]
  exact hp.map line

/-- m2s: one entry per distinct key, holding (as a multiset) exactly the (key, entry) pairs of all records -/
theorem m2s_any_schedule {κ ε : Type} [DecidableEq κ] (N T : Nat) (hT : 0 < T) (runs : Nat → List (κ × ε))
    (sched : List GStep) (s' : GSys (List (κ × List ε)))
    (hr : GSys.run N (m2sEff runs) (GSys.init T []) sched = some s') (ht : s'.terminal = true) :
    (s'.sh.map (·.1)).Nodup ∧
    (∀ k, k ∈ s'.sh.map (·.1) ↔ ∃ n, n < N ∧ ∃ p ∈ runs n, p.1 = k) ∧
    (∀ k es, (k, es) ∈ s'.sh →
        es.Perm ((s'.order.flatMap fun n => (runs n).filter (fun p => decide (p.1 = k))).map (·.2))) ∧
    s'.order.Perm (List.range N) := by
  obtain ⟨hp, hsh⟩ := gsys_any_schedule N T hT (m2sEff runs) [] sched s' hr ht
  have hg := Sch.m2s_fold runs s'.order
  rw [← hsh] at hg
  have hmem : ∀ n, n ∈ s'.order ↔ n < N := fun n => by rw [hp.mem_iff, List.mem_range]
  refine ⟨hg.nodup, fun k => ?_, fun k es hin => ?_, hp⟩
  · simp only [hg.keys k, List.mem_map, List.mem_flatMap, hmem]
    exact ⟨fun ⟨p, ⟨n, hn, hp⟩, e⟩ => ⟨n, hn, p, hp, e⟩, fun ⟨n, hn, p, hp, e⟩ => ⟨p, ⟨n, hn, hp⟩, e⟩⟩
  · rw [hg.vals_of_mem hin, List.filter_flatMap]

/-! ## non-vacuity -/

/-- s2m, two workers, lines appended out of record order -/
example : ((GSys.run 2 (s2mEff fun n => [n, 10]) (GSys.init 2 [])
    [.take 0, .take 1, .act 1, .act 0, .take 0, .take 1]).map fun s => (s.terminal, s.sh)) =
    some (true, [[1, 10], [0, 10]]) := by decide +kernel

/-- m2s: record 0 has runs with keys 7, 8, 7; record 1 has keys 8, 9; effects happen 1 then 0 -/
example : ((GSys.run 2 (m2sEff fun n => if n = 0 then [(7, 100), (8, 101), (7, 102)] else [(8, 200), (9, 201)])
    (GSys.init 2 ([] : List (Nat × List Nat)))
    [.take 0, .take 1, .act 1, .act 0, .take 0, .take 1]).map fun s => (s.terminal, s.order, s.sh)) =
    some (true, [1, 0], [(8, [200, 101]), (9, [201]), (7, [100, 102])]) := by decide +kernel

example : upsert 3 (9 : Nat) [(1, [4]), (3, [5])] = [(1, [4]), (3, [5, 9])] := by decide +kernel
example : upsert 2 (9 : Nat) [(1, [4]), (3, [5])] = [(1, [4]), (3, [5]), (2, [9])] := by decide +kernel

end KT
