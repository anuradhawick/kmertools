import KtVerif.Model.Float
import KtVerif.Model.Vectors
import KtVerif.Proofs.Float
import KtVerif.Proofs.FloatDiv
/-!
# Shared facts about the exact binary64 emulation (used by C04, C08, C11, C14, C16)

Each is an instance of a lemma of `KtVerif/Proofs/Float.lean` or `FloatDiv.lean` (namespace `KT.Fl`), where some hold more
generally than stated here.  A scaled double is the natural number `n` meaning `n · 2^-1074`; `f64One = 2^1074` is the value 1.0.
Truncated subtraction on `Nat` makes each pair of inequalities an absolute-value bound.
-/
namespace KT

/-! ## rounding to the nearest integer, ties to even -/

theorem roundDiv_err (a b : Nat) (hb : 0 < b) : 2 * (roundDiv a b * b - a) ≤ b ∧ 2 * (a - roundDiv a b * b) ≤ b :=
  Fl.sub_le_of_bounds (Fl.roundDiv_bounds a b hb)

theorem roundDiv_mono (a a' b : Nat) (hb : 0 < b) (h : a ≤ a') : roundDiv a b ≤ roundDiv a' b := by
  have _ := hb
  exact Fl.roundDiv_mono a a' b h

theorem roundDiv_exact (q b : Nat) (hb : 0 < b) : roundDiv (q * b) b = q :=
  Fl.roundDiv_exact q b hb

/-! ## conversion and division of naturals below 2^53 -/

theorem f64OfNat_exact (x : Nat) (hx : x < 2 ^ 53) : f64OfNat x = x * f64One :=
  Fl.f64OfNat_exact x hx

/-- relative error of a correctly rounded quotient of naturals is at most 2^-53 -/
theorem f64Div_nat_err (c t : Nat) (hc : 1 ≤ c) (ht : 1 ≤ t) (hc53 : c < 2 ^ 53) (ht53 : t < 2 ^ 53) :
    let q := f64Div (f64OfNat c) (f64OfNat t)
    2 ^ 53 * (q * t - c * f64One) ≤ c * f64One ∧ 2 ^ 53 * (c * f64One - q * t) ≤ c * f64One :=
  Fl.f64Div_nat_err c t hc ht hc53 ht53

theorem f64Div_zero (t : Nat) (ht : 1 ≤ t) (ht53 : t < 2 ^ 53) : f64Div (f64OfNat 0) (f64OfNat t) = 0 := by
  have _ := ht
  rw [Fl.f64Div_nat_eq 0 t (by decide) ht53, Nat.zero_mul, Fl.roundRat_zero]

theorem f64Div_self (t : Nat) (ht : 1 ≤ t) (ht53 : t < 2 ^ 53) : f64Div (f64OfNat t) (f64OfNat t) = f64One := by
  have := Fl.f64Div_mul_exact 1 t (by decide) ht ht53 (by omega)
  rwa [Nat.one_mul, Nat.one_mul] at this

theorem f64Div_le_one (c t : Nat) (hct : c ≤ t) (ht : 1 ≤ t) (ht53 : t < 2 ^ 53) :
    f64Div (f64OfNat c) (f64OfNat t) ≤ f64One := by
  have _ := ht53
  exact Fl.f64Div_le_one_any c t hct ht

/-! ## `{:.6}` text -/

/-- C04/C08 "correct to 6 decimals": the printed value N/10^6 is within 10^-6 of c/t -/
theorem fmt6_quotient_correct (c t : Nat) (hct : c ≤ t) (ht : 1 ≤ t) (ht53 : t < 2 ^ 53) :
    let N := fmt6Int (f64Div (f64OfNat c) (f64OfNat t))
    N * t ≤ c * 1000000 + t ∧ c * 1000000 ≤ N * t + t :=
  Fl.fmt6_quotient_correct c t hct ht ht53

/-- a value in [0, 1] prints as exactly 8 characters `d.dddddd` (constant row width: C05, C14) -/
theorem fmt6_length (n : Nat) (hn : n ≤ f64One) : (fmt6 n).length = 8 :=
  Fl.fmt6_length n hn

/-! ## coverage bin -/

/-- C08: the float floor-division equals the integer division on the u32 range -/
theorem covBinF64_eq_div (c b : Nat) (hc : c < 2 ^ 32) (hb1 : 1 ≤ b) (hb : b < 2 ^ 32) : covBinF64 c b = c / b :=
  Fl.covBinF64_eq_div c b hc hb1 hb

/-- any bin size up to 2^64: beyond the u32 range the quotient is below 1 and the floor is 0 = c / b -/
theorem covBinF64_eq_div_u64 (c b : Nat) (hc : c < 2 ^ 32) (hb1 : 1 ≤ b) (hb : b < 2 ^ 64) : covBinF64 c b = c / b :=
  Fl.covBinF64_eq_div_u64 c b hc hb1 hb

/-! ## non-vacuity: concrete values of the emulation (bit patterns as printed by Rust `to_bits`) -/

-- 1/2 = 0.5
example : f64Bits (f64Div (f64OfNat 1) (f64OfNat 2)) = 4602678819172646912 := by decide +kernel
-- 1/3 = 0.333… (0x3FD5555555555555)
example : f64Bits (f64Div (f64OfNat 1) (f64OfNat 3)) = 4599676419421066581 := by decide +kernel
-- 1.0
example : f64Bits (f64Div (f64OfNat 7) (f64OfNat 7)) = 4607182418800017408 := by decide +kernel
-- "0.007812": 1/128 = 0.0078125 is a tie, rounded to the even digit
example : fmt6 (f64Div (f64OfNat 1) (f64OfNat 128)) = [48,46,48,48,55,56,49,50] := by decide +kernel
-- "0.333333", "1.000000", "0.000000"
example : fmt6 (f64Div (f64OfNat 1) (f64OfNat 3)) = [48,46,51,51,51,51,51,51] := by decide +kernel
example : fmt6 (f64Div (f64OfNat 5) (f64OfNat 5)) = [49,46,48,48,48,48,48,48] := by decide +kernel
example : fmt6 (f64Div (f64OfNat 0) (f64OfNat 5)) = [48,46,48,48,48,48,48,48] := by decide +kernel
example : fmt6Int (f64Div (f64OfNat 2) (f64OfNat 3)) = 666667 := by decide +kernel
example : roundDiv 5 2 = 2 ∧ roundDiv 7 2 = 4 ∧ roundDiv 9 4 = 2 := by decide +kernel
example : covBinF64 4294967294 4294967295 = 0 ∧ covBinF64 4294967295 4294967295 = 1 ∧ covBinF64 100 7 = 14 := by decide +kernel
-- bin sizes beyond u32: 2^32, 2^53 + 1 (not a double), 2^64 - 1
example : covBinF64 4294967295 4294967296 = 0 ∧ covBinF64 4294967295 9007199254740993 = 0 ∧
    covBinF64 4294967295 18446744073709551615 = 0 := by decide +kernel

end KT
