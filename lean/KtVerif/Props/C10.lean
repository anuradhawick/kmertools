import KtVerif.Proofs.CliDecide
import KtVerif.Proofs.MinOut
import KtVerif.Props.C09b
import KtVerif.Props.C10sched
/-!
# C10: the two minimiser outputs (`seq_to_min`, `bin_sequences`) against the specification

* the s2m line of a record is its id followed by the specification's runs, in order;
* window size 0 means one window spanning the whole record;
* the m2s contributions of a record are the runs its s2m line lists;
* end to end, under every schedule of the worker loop.
-/
namespace KT
open KT.MO

/-- the s2m line written by the code is the line the specification describes: id, then the record's runs in order -/
theorem s2mLine_eq_spec (w m : Nat) (id seq : List Nat) (hm1 : 1 ≤ m) (hm : m ≤ 31) (hw : w = 0 ∨ m ≤ w) :
    s2mLine w m id seq = s2mLineSpec w m id seq := by
  rw [s2mLine, s2mLineSpec, minimisers_eq_specRuns _ m seq hm1 (Cl.effW_ge w m seq hw) hm]
  congr 1
  exact List.map_congr_left fun r _ => runText_eq m r

/-- window size 0 = one window spanning the whole record -/
theorem effW_zero (m : Nat) (seq : List Nat) (h : m ≤ seq.length) : effW 0 m seq = seq.length :=
  (if_pos rfl).trans (Nat.max_eq_left h)

theorem w0_single_window (m : Nat) (seq : List Nat) (hm1 : 1 ≤ m) (hlen : m ≤ seq.length) (hclean : seq.all clean = true) :
    specRuns (effW 0 m seq) m seq = [(listMin (mmersOfWindow seq.length m seq 0), 0, seq.length)] := by
  have _ := hm1  -- also holds for m = 0
  -- one window: `groupRuns` opens its run at 0 and, the list being at its end, closes it at `1 + |seq| - 1`
  rw [effW_zero m seq hlen, specRuns, winMins_full, winMin, winValid_full, if_pos hclean, groupRuns,
    groupRuns, Nat.zero_add, Nat.add_sub_cancel_left]

theorem w0_ambiguous (m : Nat) (seq : List Nat) (hm1 : 1 ≤ m) (hlen : m ≤ seq.length) (hamb : seq.all clean = false) :
    specRuns (effW 0 m seq) m seq = [] := by
  have _ := hm1  -- also holds for m = 0
  rw [effW_zero m seq hlen, specRuns, winMins_full, winMin, winValid_full, hamb]
  rfl

theorem w0_short (m : Nat) (seq : List Nat) (hlen : seq.length < m) : specRuns (effW 0 m seq) m seq = [] := by
  rw [effW_zero_short m seq hlen]
  exact specRuns_nil_of_short m m seq hlen

/-- the m2s contributions of a record are exactly the runs its s2m line lists (same order, same coordinates) -/
theorem m2sRuns_eq_line_runs (w m : Nat) (id seq : List Nat) :
    (m2sRuns w m id seq).map (fun p => p.1 ++ [58] ++ natText p.2.2.1 ++ [45] ++ natText p.2.2.2) =
      (minimisers (effW w m seq) m seq).map (runText m) ∧
    ∀ p ∈ m2sRuns w m id seq, p.2.1 = id := by
  constructor
  · rw [m2sRuns, List.map_map]
    exact List.map_congr_left fun r _ => rfl
  · intro p hp
    rw [m2sRuns, List.mem_map] at hp
    obtain ⟨r, _, rfl⟩ := hp
    rfl

/-- end to end, any schedule: the s2m output is one line per record, each the specification's line -/
theorem s2m_output_spec (w m N T : Nat) (hT : 0 < T) (hm1 : 1 ≤ m) (hm : m ≤ 31) (hw : w = 0 ∨ m ≤ w)
    (ids seqs : Nat → List Nat) (sched : List GStep) (s' : GSys (List (List Nat)))
    (hr : GSys.run N (s2mEff fun n => s2mLine w m (ids n) (seqs n)) (GSys.init T []) sched = some s')
    (ht : s'.terminal = true) :
    s'.sh.Perm ((List.range N).map fun n => s2mLineSpec w m (ids n) (seqs n)) := by
  rw [← List.map_congr_left fun n _ => s2mLine_eq_spec w m (ids n) (seqs n) hm1 hm hw]
  exact s2m_any_schedule N T hT _ sched s' hr ht

/-- end to end, any schedule: the m2s table lists, per minimiser text, exactly the (id, start, end) of all records' runs with that text -/
theorem m2s_output_spec (w m N T : Nat) (hT : 0 < T) (ids seqs : Nat → List Nat) (sched : List GStep)
    (s' : GSys (List (List Nat × List (List Nat × Nat × Nat))))
    (hr : GSys.run N (m2sEff fun n => m2sRuns w m (ids n) (seqs n)) (GSys.init T []) sched = some s')
    (ht : s'.terminal = true) :
    (s'.sh.map (·.1)).Nodup ∧
    (∀ k, k ∈ s'.sh.map (·.1) ↔ ∃ n, n < N ∧ ∃ r ∈ minimisers (effW w m (seqs n)) m (seqs n), numericToKmer m r.1 = k) ∧
    (∀ k es, (k, es) ∈ s'.sh → ∀ e, e ∈ es ↔
        ∃ n, n < N ∧ ∃ r ∈ minimisers (effW w m (seqs n)) m (seqs n), numericToKmer m r.1 = k ∧ e = (ids n, r.2.1, r.2.2)) := by
  obtain ⟨hnd, hkeys, hvals, hord⟩ :=
    m2s_any_schedule N T hT (fun n => m2sRuns w m (ids n) (seqs n)) sched s' hr ht
  refine ⟨hnd, fun k => ?_, fun k es hin e => ?_⟩
  · simp only [hkeys k, m2sRuns, List.mem_map]
    exact ⟨fun ⟨n, hn, _, ⟨r, hrm, rfl⟩, hk⟩ => ⟨n, hn, r, hrm, hk⟩,
      fun ⟨n, hn, r, hrm, hk⟩ => ⟨n, hn, _, ⟨r, hrm, rfl⟩, hk⟩⟩
  · simp only [(hvals k es hin).mem_iff, m2sRuns, List.mem_map, List.mem_flatMap, List.mem_filter,
      hord.mem_iff, List.mem_range, decide_eq_true_eq]
    exact ⟨fun ⟨_, ⟨n, hn, ⟨r, hrm, rfl⟩, hk⟩, he⟩ => ⟨n, hn, r, hrm, hk, he.symm⟩,
      fun ⟨n, hn, r, hrm, hk, he⟩ => ⟨_, ⟨n, hn, ⟨r, hrm, rfl⟩, hk⟩, he.symm⟩⟩

/-! ## non-vacuity -/

-- "ACGTACG", id "r0", w = 3, m = 2: `r0\tAC:0-7\n`
example : minimisers 3 2 [65,67,71,84,65,67,71] = [(1,0,7)] := by decide +kernel
example : s2mLine 3 2 [114,48] [65,67,71,84,65,67,71] = [114,48,9,65,67,58,48,45,55,9,10] := by decide +kernel
example : s2mLineSpec 3 2 [114,48] [65,67,71,84,65,67,71] = [114,48,9,65,67,58,48,45,55,9,10] := by decide +kernel
-- two runs with an ambiguous byte in between: "ACGTNACGTTA"
example : s2mLine 3 2 [120] [65,67,71,84,78,65,67,71,84,84,65] =
    [120,9, 65,67,58,48,45,52, 9, 65,67,58,53,45,57, 9, 65,65,58,55,45,49,49, 9,10] := by decide +kernel
-- a record without runs: id, tab, newline
example : s2mLine 4 2 [120] [65,67,71] = [120,9,10] := by decide +kernel

-- window size 0
example : effW 0 2 [65,67,71,84] = 4 ∧ effW 0 5 [65,67,71,84] = 5 ∧ effW 3 2 [65,67,71,84] = 3 := by decide +kernel
example : specRuns (effW 0 2 [65,67,71,84]) 2 [65,67,71,84] = [(1,0,4)] := by decide +kernel
example : listMin (mmersOfWindow 4 2 [65,67,71,84] 0) = 1 := by decide +kernel
example : minimisers (effW 0 2 [65,67,71,84]) 2 [65,67,71,84] = [(1,0,4)] := by decide +kernel
-- with an `N` inside: nothing
example : [65,67,78,84].all clean = false ∧ specRuns (effW 0 2 [65,67,78,84]) 2 [65,67,78,84] = [] := by decide +kernel
example : minimisers (effW 0 2 [65,67,78,84]) 2 [65,67,78,84] = [] := by decide +kernel
-- shorter than m: nothing
example : specRuns (effW 0 5 [65,67,71,84]) 5 [65,67,71,84] = [] := by decide +kernel
example : s2mLine 0 5 [120] [65,67,71,84] = [120,9,10] := by decide +kernel

-- m2s contributions of "ACGTNACGTTA": same texts and coordinates as the s2m line, all with the id
example : m2sRuns 3 2 [120] [65,67,71,84,78,65,67,71,84,84,65] =
    [([65,67], [120], 0, 4), ([65,67], [120], 5, 9), ([65,65], [120], 7, 11)] := by decide +kernel

-- end to end, two records "ACGTNACGTTA" (id x) and "AAC" (id y), effects out of record order
set_option synthInstance.maxSize 1024 in  -- `DecidableEq` of the nested table type
example : ((GSys.run 2 (m2sEff fun n => if n = 0 then m2sRuns 3 2 [120] [65,67,71,84,78,65,67,71,84,84,65]
      else m2sRuns 3 2 [121] [65,65,67])
    (GSys.init 2 ([] : List (List Nat × List (List Nat × Nat × Nat))))
    [.take 0, .take 1, .act 1, .act 0, .take 0, .take 1]).map fun s => (s.terminal, s.sh)) =
    some (true, [([65,65], [([121], 0, 3), ([120], 7, 11)]), ([65,67], [([120], 0, 4), ([120], 5, 9)])]) := by decide +kernel

end KT
