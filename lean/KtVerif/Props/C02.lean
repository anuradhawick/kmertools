import KtVerif.Props.C01
/-!
# C02: reverse complement and decoding of codes; reverse complement of the text
-/
namespace KT

theorem revComp_eq_spec (k x : Nat) (hk : k ≤ 31) (hx : x < 4 ^ k) : revComp k x = revCompSpec k x :=
  have _ := hx  -- the equality also holds for x ≥ 4^k (both sides read k digits only)
  Canon.revComp_eq_spec k x hk

example : revComp 3 6 = 27 ∧ revCompSpec 3 6 = 27 := by decide +kernel   -- ACG ↦ CGT

theorem revCompSpec_lt (k x : Nat) : revCompSpec k x < 4 ^ k := by
  have := encDigits_rcDigits_lt (digitsOf k x)
  rwa [digitsOf_length] at this

theorem revCompSpec_involutive (k x : Nat) (hx : x < 4 ^ k) : revCompSpec k (revCompSpec k x) = x := by
  rw [revCompSpec_eq, digitsOf_revCompSpec, rcDigits_rcDigits (digitsOf_lt k x), encDigits_digitsOf,
    Nat.mod_eq_of_lt hx]

example : revCompSpec 3 (revCompSpec 3 6) = 6 ∧ revCompSpec 3 6 ≠ 6 := by decide +kernel
-- the bound is needed:
example : revCompSpec 1 (revCompSpec 1 5) = 1 := by decide +kernel

theorem revComp_involutive (k x : Nat) (hk : k ≤ 31) (hx : x < 4 ^ k) : revComp k (revComp k x) = x := by
  rw [revComp_eq_spec k x hk hx, revComp_eq_spec k _ hk (revCompSpec_lt k x), revCompSpec_involutive k x hx]

example : revComp 4 (revComp 4 255) = 255 ∧ revComp 4 255 = 0 ∧ revComp 3 (revComp 3 6) = 6 := by decide +kernel

theorem numericToKmer_eq_spec (k x : Nat) : numericToKmer k x = decodeSpec k x := by
  rw [numericToKmer, numericToKmerLoop_eq, List.append_nil, decodeSpec]

example : numericToKmer 3 6 = [65, 67, 71] := by decide +kernel

theorem decodeSpec_length (k x : Nat) : (decodeSpec k x).length = k := by
  simp [decodeSpec, digitsOf_length]

theorem decodeSpec_alphabet (k x : Nat) : ∀ c ∈ decodeSpec k x, c = 65 ∨ c = 67 ∨ c = 71 ∨ c = 84 := by
  intro c hc
  rw [decodeSpec, List.mem_map] at hc
  obtain ⟨d, _, rfl⟩ := hc
  exact letterOf_alphabet d

theorem enc_decodeSpec (k x : Nat) (hx : x < 4 ^ k) : enc (decodeSpec k x) = x := by
  rw [enc, map_nt4_decodeSpec, encDigits_digitsOf, Nat.mod_eq_of_lt hx]

example : enc (decodeSpec 3 27) = 27 ∧ enc (decodeSpec 1 5) ≠ 5 := by decide +kernel

theorem decodeSpec_enc (w : List Nat) (hw : ∀ c ∈ w, c = 65 ∨ c = 67 ∨ c = 71 ∨ c = 84) : decodeSpec w.length (enc w) = w := by
  have hlt : ∀ d ∈ w.map nt4, d < 4 := by
    intro d hd
    obtain ⟨c, hc, rfl⟩ := List.mem_map.1 hd
    rcases hw c hc with h | h | h | h <;> subst h <;> decide
  have := digitsOf_encDigits (w.map nt4) hlt
  rw [List.length_map] at this
  rw [decodeSpec, enc, this, List.map_map]
  exact (List.map_congr_left fun c hc => letterOf_nt4 (hw c hc)).trans (List.map_id w)

example : decodeSpec 3 (enc [67, 71, 84]) = [67, 71, 84] ∧ decodeSpec 1 (enc [97]) ≠ [97] := by decide +kernel

theorem revCompSpec_eq_text (k x : Nat) (hx : x < 4 ^ k) : revCompSpec k x = enc (rcSeq (decodeSpec k x)) := by
  have _ := hx  -- also holds without the bound
  rw [enc_rcSeq (all_clean_decodeSpec k x), rcEnc_eq, map_nt4_decodeSpec, revCompSpec_eq]

example : rcSeq (decodeSpec 3 6) = [67, 71, 84] ∧ enc [67, 71, 84] = 27 := by decide +kernel

theorem specKmers_snd (k : Nat) (s : List Nat) : ∀ p ∈ specKmers k s, p.2 = revCompSpec k p.1 := by
  intro p hp
  obtain ⟨w, hl, hc, rfl⟩ := mem_specKmers hp
  subst hl
  exact rcEnc_eq_revCompSpec hc

example : (11, 1) ∈ specKmers 2 [65,67,78,71,84,84] ∧ revCompSpec 2 11 = 1 := by decide +kernel
example : specKmers 0 [65] = [(0,0),(0,0)] ∧ revCompSpec 0 0 = 0 := by decide +kernel

theorem kmers_snd_eq_revComp (k : Nat) (s : List Nat) (hk1 : 1 ≤ k) (hk : k ≤ 31) : ∀ p ∈ kmers k s, p.2 = revComp k p.1 := by
  intro p hp
  have hlt := kmerGen_lt k s hk1 hk p hp
  rw [kmerGen_eq_spec k s hk1 hk] at hp
  rw [revComp_eq_spec k p.1 hk hlt.1]
  exact specKmers_snd k s p hp

example : (11, 1) ∈ kmers 2 [65,67,78,71,84,84] ∧ revComp 2 11 = 1 := by decide +kernel

theorem specKmers_rcSeq (k : Nat) (s : List Nat) (hk1 : 1 ≤ k) : specKmers k (rcSeq s) = (specKmers k s).reverse.map Prod.swap := by
  -- the first window of `b :: s` is the last window of its reverse complement
  induction s with
  | nil => show specKmers k [] = _; rw [specKmers_of_short (s := []) hk1]; rfl
  | cons b s ih =>
    rw [rcSeq_cons, specKmers_concat hk1, ih, specKmers_cons hk1, List.reverse_append, itemIf_reverse,
      List.map_append, ← rcSeq_cons, lastN_rcSeq, itemIf_rcSeq]

example : rcSeq [65,67,78,71,84,84] = [65,65,67,78,71,84] ∧
    specKmers 2 [65,65,67,78,71,84] = [(0,15),(1,11),(11,1)] ∧
    specKmers 2 [65,67,78,71,84,84] = [(1,11),(11,1),(15,0)] := by decide +kernel

theorem kmers_rcSeq (k : Nat) (s : List Nat) (hk1 : 1 ≤ k) (hk : k ≤ 31) : kmers k (rcSeq s) = (kmers k s).reverse.map Prod.swap := by
  rw [kmerGen_eq_spec k _ hk1 hk, kmerGen_eq_spec k _ hk1 hk, specKmers_rcSeq k s hk1]

example : kmers 2 (rcSeq [65,67,78,71,84,84]) = [(0,15),(1,11),(11,1)] := by decide +kernel

theorem canonPair_swap (p : Nat × Nat) : canonPair p.swap = canonPair p :=
  Nat.min_comm _ _

theorem canons_rcSeq {k : Nat} (hk1 : 1 ≤ k) (s : List Nat) : canons k (rcSeq s) = (canons k s).reverse := by
  unfold canons
  rw [specKmers_rcSeq k s hk1, List.map_map, ← List.map_reverse]
  exact List.map_congr_left fun p _ => canonPair_swap p

theorem canons_rcSeq_perm (k : Nat) (s : List Nat) (hk1 : 1 ≤ k) : (canons k (rcSeq s)).Perm (canons k s) := by
  rw [canons_rcSeq hk1]; exact List.reverse_perm _

example : canons 2 [65,67,78,71,84,84] = [1,1,0] ∧ canons 2 (rcSeq [65,67,78,71,84,84]) = [0,1,1] := by decide +kernel

end KT
