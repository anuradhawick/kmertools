import KtVerif.Tie.Tables
import KtVerif.Spec.Vectors
import KtVerif.Spec.Fasta
/-!
# Tie: corner table of the chaos game, cell width of a normalised value, suffix table of the reader

Behavioural copies (`…Beh`, complete enumeration of the compiled code on the datum's finite domain)
must be present and equal to the spec datum; lexical copies (`…Lex`, read from the Rust source
text) must agree when they were found.  `oligocgr_corner_table_eq_spec` and `number_size_eq_eight`
have a lexical copy only.
-/
namespace KT.Tie
open KT

/-- encoding used by the translator: corner (x, y) in units of the square side ↦ 2x + y, 4 = not in the map -/
def cornerCode (b : Nat) : Nat :=
  match cornerSpec b with
  | some (x, y) => 2 * x + y
  | none => 4

def cornerTableOk (t : Array Nat) : Bool :=
  t.size == 256 && (List.range 256).all fun b => t[b]! == cornerCode b

theorem cornerTableOk_eq : cornerTableOk = fun t =>
    t.size == 256 && t.toList.zipIdx.all fun xb => xb.1 == cornerCode xb.2 :=
  funext fun t => all_range_eq_all_zipIdx 256 t fun b x => x == cornerCode b

/-- C11: the corner of every byte value in `composition::cgr::cgr_maps` (also used by the Python binding) -/
theorem cgr_corner_table_eq_spec :
    (match Gen.cgrCornerCgrBeh with | some t => cornerTableOk t | none => false) = true ∧
    (match Gen.cgrCornerCgrLex with | some t => cornerTableOk t | none => true) = true := by
  rw [cornerTableOk_eq]
  decide +kernel

/-- C12: the private copy of the corner table in `composition::oligocgr` -/
theorem oligocgr_corner_table_eq_spec :
    (match Gen.cgrCornerOligoCgrLex with | some t => cornerTableOk t | none => true) = true := by
  rw [cornerTableOk_eq]
  decide +kernel

/-- C04 / C05 / C14: `NUMBER_SIZE` (characters per normalised value) is 8 wherever it is found -/
theorem number_size_eq_eight :
    (Gen.numberSizeOligoLex.all (· == 8) && Gen.numberSizeCovLex.all (· == 8)) = true := by decide +kernel

/-- the file names on which the translator asks the compiled `SeqFormat::get` (see `p_tables.rs`) -/
def formatNames : List String :=
  ["x.fa", "x.fasta", "x.fna", "x.fq", "x.fastq", "x.fa.gz", "x.fasta.gz", "x.fna.gz", "x.fq.gz",
   "x.fastq.gz", "x.txt", "x.gz", "x", "x.fa.bz2", "x.FA", "fa", "x.fastq.fa", "x.fa.fq", "x.fas",
   ".fa", "dir/.fastq", ".fq.gz", "reads.fq.fa.gz", "a.fq/x.fa", "x.fastq.fasta", ".gz", "x..fa"]

def formatCode : Option SeqFormat → Nat
  | none => 0
  | some .fasta => 1
  | some .fastq => 2

/-- C06: the format inferred by the compiled code for each of these names is the documented one -/
theorem formats_eq_spec :
    Gen.formatsBeh = some (formatNames.map fun n => formatCode (formatSpec (n.toList.map Char.toNat))).toArray := by
  decide +kernel

end KT.Tie
