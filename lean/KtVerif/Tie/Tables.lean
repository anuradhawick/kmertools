import KtVerif.Generated
import KtVerif.Spec.Kmer
/-!
# Tie of the regenerated data to the spec data (tables of the three iterators, letters)

`KtVerif/Generated.lean` is rewritten by every check from the Rust source text (lexical copy) and
from the compiled code's behaviour on all 256 one-byte inputs (behavioural copy).  The theorems
below are re-checked by the kernel on every run; they say that the table each iterator uses is the
spec table `nt4` (outside the raw bytes 0..3, which the properties leave unspecified).
The behavioural copy must be present; a lexical copy that was not found does not break anything.
-/
namespace KT.Tie
open KT

def tableOk (t : Array Nat) : Bool :=
  t.size == 256 && (List.range 256).all fun b => b < 4 || t[b]! == nt4 b

def optTableOk : Option (Array Nat) → Bool
  | none => true
  | some t => tableOk t

def behTableOk : Option (Array Nat) → Bool
  | none => false
  | some t => tableOk t

/-- The form in which the kernel evaluates the checks below: every `t[b]!` recomputes `t.size` by `List.length`, so looking
    up each index of `List.range n` is far dearer than walking the table once with the index alongside. -/
theorem all_range_eq_all_zipIdx (n : Nat) (t : Array Nat) (p : Nat → Nat → Bool) :
    (t.size == n && (List.range n).all fun b => p b t[b]!) =
      (t.size == n && t.toList.zipIdx.all fun xb => p xb.2 xb.1) := by
  by_cases hn : t.size = n
  · subst hn
    congr 1
    rw [Bool.eq_iff_iff, List.all_eq_true, List.all_eq_true]
    constructor
    · rintro h ⟨x, b⟩ hm
      obtain ⟨hb, rfl⟩ : ∃ hb : b < t.size, t[b] = x := by
        simpa [List.mem_zipIdx_iff_getElem?, Array.getElem?_eq_some_iff] using hm
      simpa [hb] using h b (by simpa using hb)
    · intro h b hb
      have hb : b < t.size := by simpa using hb
      simpa [hb] using h (t[b], b) (by simp [List.mem_zipIdx_iff_getElem?, hb])
  · rw [beq_false_of_ne hn, Bool.false_and, Bool.false_and]

theorem tableOk_eq : tableOk = fun t =>
    t.size == 256 && t.toList.zipIdx.all fun xb => xb.2 < 4 || xb.1 == nt4 xb.2 :=
  funext fun t => all_range_eq_all_zipIdx 256 t fun b x => b < 4 || x == nt4 b

/-- C01/C02: table of `KmerGenerator` -/
theorem nt4_kmer_table_eq_spec :
    behTableOk Gen.nt4KmerBeh = true ∧ optTableOk Gen.nt4KmerLex = true := by
  unfold behTableOk optTableOk
  rw [tableOk_eq]
  decide +kernel

/-- C09/C10: table of `MinimiserGenerator` -/
theorem nt4_min_table_eq_spec :
    behTableOk Gen.nt4MinBeh = true ∧ optTableOk Gen.nt4MinLex = true := by
  unfold behTableOk optTableOk
  rw [tableOk_eq]
  decide +kernel

/-- C18: table of `KmerMinimiserGenerator` -/
theorem nt4_kmin_table_eq_spec :
    behTableOk Gen.nt4KMinBeh = true ∧ optTableOk Gen.nt4KMinLex = true := by
  unfold behTableOk optTableOk
  rw [tableOk_eq]
  decide +kernel

/-- `REV_MASK = 3` wherever it is found -/
theorem rev_mask_eq_three :
    (Gen.revMaskKmerLex.all (· == 3) && Gen.revMaskMinLex.all (· == 3) && Gen.revMaskKMinLex.all (· == 3)) = true := by
  decide +kernel

/-- C02: the four letters of `numeric_to_kmer` -/
theorem letters_eq_spec :
    Gen.lettersBeh = some #[letterOf 0, letterOf 1, letterOf 2, letterOf 3] ∧
    (Gen.lettersLex = none ∨ Gen.lettersLex = some #[letterOf 0, letterOf 1, letterOf 2, letterOf 3]) := by
  decide +kernel

end KT.Tie
