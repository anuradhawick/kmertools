import KtVerif.Model.Sched
import KtVerif.Model.MinOut
import KtVerif.Spec.Vectors
/-!
# End-to-end specifications (composition of the per-layer theorems)

What a whole run must leave behind: the specification rows and tables in the model's text layout
(`rowText`, `joinBytes`).  `oligoHeaderBytes` and `ChunkRuns` are the model side.  The theorems of
`Props/E2E.lean` and `Props/E2E2.lean` connect the two for every schedule.
-/
namespace KT

/-- C04/C05: the oligo vectors file — optional header line, then one normalised row per record in input order -/
def oligoFileSpec (k : Nat) (header : Bool) (delim : List Nat) (recs : List (List Nat)) : List Nat :=
  (if header then joinBytes delim (headerSpec k) ++ [10] else []) ++
  (recs.map fun s => rowText true delim (oligoRowSpec k s) (windowCount k s)).flatten

/-- the header bytes the code writes first -/
def oligoHeaderBytes (k : Nat) (header : Bool) (delim : List Nat) : List Nat :=
  if header then joinBytes delim (KT.header k) ++ [10] else []

/-- C07: a counting run is a sequence of chunks; chunk i starts where chunk i-1 stopped, is any
    terminal run of the chunk system, and the last one ends at the end of the input -/
inductive ChunkRuns (N limit T : Nat) (kms : Nat → List Nat) (len : Nat → Nat) : Nat → List CSys → Prop where
  | done : ChunkRuns N limit T kms len N []
  | step (start : Nat) (sched : List CStep) (s : CSys) (rest : List CSys)
      (hlt : start < N)
      (hrun : CSys.run N limit kms len (CSys.init T start) sched = some s)
      (hterm : s.terminal = true)
      (hrest : ChunkRuns N limit T kms len s.next rest) :
      ChunkRuns N limit T kms len start (s :: rest)

/-- the multiset of canonical k-mers of a whole input -/
def allCanons (k : Nat) (recs : List (List Nat)) : List Nat := recs.flatMap (canons k)

end KT

namespace KT

/-- C08: the multiplicity function that `compute_coverages` builds from the lines of the counts table
    (`counts.insert(kmer, count)`; absent k-mers read as 0) -/
def cntOfTable (tbl : List (Nat × Nat)) (x : Nat) : Nat :=
  match tbl.find? (fun p => p.1 == x) with
  | some p => p.2
  | none => 0

/-- C08: the coverage vectors file — one row per record, in input order -/
def covFileSpec (k binSize binCount : Nat) (norm : Bool) (delim : List Nat)
    (countingRecs recs : List (List Nat)) : List Nat :=
  (recs.map fun s =>
      rowText norm delim (covRowSpec k binSize binCount (countsOf k countingRecs) s) (windowCount k s)).flatten

/-- C11: the j-base sub-square bounds of a coordinate: the last `j` corner bits `cs` (most recent first,
    each 0 or 1) confine the coordinate to `[lo, lo + S/2^j]` (in scaled double units) -/
def subsquareLo (S : Nat) (cs : List Nat) : Nat :=
  (List.range cs.length).foldl (fun a t => a + (cs.getD t 0) * S * f64One / 2 ^ (t + 1)) 0

end KT

namespace KT

/-- C04/C05: the oligo vectors file for either mode (raw counts or normalised) — the right-hand side of
    `oligo_batch_end_to_end`; for `norm = true` it is `oligoFileSpec` -/
def oligoFileSpecG (k : Nat) (norm header : Bool) (delim : List Nat) (recs : List (List Nat)) : List Nat :=
  (if header then joinBytes delim (headerSpec k) ++ [10] else []) ++
  (recs.map fun s => rowText norm delim (oligoRowSpec k s) (windowCount k s)).flatten

theorem oligoFileSpecG_norm (k : Nat) (header : Bool) (delim : List Nat) (recs : List (List Nat)) :
    oligoFileSpecG k true header delim recs = oligoFileSpec k header delim recs := rfl

end KT
