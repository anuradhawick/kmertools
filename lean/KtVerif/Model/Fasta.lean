import KtVerif.Spec.Fasta
/-!
# Model layer: `ktio/src/seq.rs` on top of rust-bio 2.0.3's FASTA / FASTQ readers

rust-bio is modelled (not verified) as a line grammar transcribed from its source
(`fasta::Reader::read`, `fastq::Reader::read`, the `Records` iterators).  `read_line` semantics:
a line includes its `\n`; the last line may lack it.  `trim_end` and the word split are modelled on ASCII white space.
The well-formed domain (`wfHeader`) admits bytes >= 128 in ids and descriptions, standing for the bytes of non-ASCII characters;
the real readers work on `str` and also treat Unicode white space (U+0085, U+00A0, U+1680, U+2000-200A, U+2028/9, U+202F,
U+205F, U+3000) as white space, so for header text containing those characters the model is not claimed to be faithful: the
correspondence generators never produce them, and the round-trip theorems are about the byte-level model.  An `Err` from rust-bio becomes a panic in `Sequences::next`
(`record.unwrap()`), reported as `ParseStatus.panic`.
-/
namespace KT

def isWs (b : Nat) : Bool := b == 32 || (decide (9 ≤ b) && decide (b ≤ 13))

def trimEnd (l : List Nat) : List Nat := (l.reverse.dropWhile isWs).reverse

def splitLinesAux : List Nat → List Nat → List (List Nat)
  | cur, [] => if cur.isEmpty then [] else [cur.reverse]
  | cur, b :: bs => if b = 10 then (b :: cur).reverse :: splitLinesAux [] bs else splitLinesAux (b :: cur) bs

/-- successive results of `read_line` until it returns the empty string -/
def splitLines (bs : List Nat) : List (List Nat) := splitLinesAux [] bs

/-- `s.splitn(2, pred)`: (first field, rest after the first separator if there is one) -/
def splitFirst (isSep : Nat → Bool) : List Nat → List Nat × Option (List Nat)
  | [] => ([], none)
  | b :: bs =>
    if isSep b then ([], some bs)
    else let (a, r) := splitFirst isSep bs; (b :: a, r)

structure RawRec where
  id   : List Nat
  desc : Option (List Nat)
  seq  : List Nat
deriving DecidableEq, Repr

inductive ParseStatus where
  | done      -- iterator returned `None`
  | panic     -- `record.unwrap()` on an `Err`
deriving DecidableEq, Repr

/-- the sequence lines following a FASTA header: up to (not including) the next line starting with `>` -/
def fastaBody : List (List Nat) → List Nat × List (List Nat)
  | [] => ([], [])
  | l :: ls =>
    if l.head? = some 62 then ([], l :: ls)
    else let (s, rest) := fastaBody ls; (trimEnd l ++ s, rest)

theorem fastaBody_length_le (ls : List (List Nat)) : (fastaBody ls).2.length ≤ ls.length := by
  induction ls with
  | nil => exact Nat.le_refl 0
  | cons l ls ih =>
    rw [fastaBody]
    split
    · exact Nat.le_refl _
    · exact Nat.le_succ_of_le ih

/-- `fasta::Records::next` repeated; stops silently at an "empty" record, panics on a bad start -/
def fastaRecords : List (List Nat) → List RawRec × ParseStatus
  | [] => ([], .done)
  | l :: ls =>
    if l.head? ≠ some 62 then ([], .panic)
    else
      let (id, desc) := splitFirst isWs (trimEnd (l.drop 1))
      let body := fastaBody ls
      if id.isEmpty ∧ desc.isNone ∧ body.1.isEmpty then ([], .done)
      else
        let (rs, st) := fastaRecords body.2
        ({ id := id, desc := desc, seq := body.1 } :: rs, st)
termination_by ls => ls.length
decreasing_by
  have := fastaBody_length_le ls
  simp only [List.length_cons]; omega

/-- sequence lines of a FASTQ record: up to the `+` line; returns (bases, number of lines, rest
    AFTER the `+` line) -/
def fastqSeqLines : List (List Nat) → List Nat × Nat × List (List Nat)
  | [] => ([], 0, [])
  | l :: ls =>
    if l.head? = some 43 then ([], 0, ls)
    else let (s, n, rest) := fastqSeqLines ls; (trimEnd l ++ s, n + 1, rest)

/-- `n` quality lines (missing lines read as empty) -/
def fastqQualLines : Nat → List (List Nat) → List Nat × List (List Nat)
  | 0, ls => ([], ls)
  | n + 1, [] => let (q, r) := fastqQualLines n []; (q, r)
  | n + 1, l :: ls => let (q, r) := fastqQualLines n ls; (trimEnd l ++ q, r)

theorem fastqSeqLines_length_le (ls : List (List Nat)) : (fastqSeqLines ls).2.2.length ≤ ls.length := by
  induction ls with
  | nil => exact Nat.le_refl 0
  | cons l ls ih =>
    rw [fastqSeqLines]
    split
    · exact Nat.le_succ _
    · exact Nat.le_succ_of_le ih

theorem fastqQualLines_length_le (n : Nat) (ls : List (List Nat)) : (fastqQualLines n ls).2.length ≤ ls.length := by
  induction n generalizing ls with
  | zero => exact Nat.le_refl _
  | succ n ih =>
    cases ls with
    | nil => exact ih []
    | cons l ls => exact Nat.le_succ_of_le (ih ls)

/-- `fastq::Records::next` repeated -/
def fastqRecords : List (List Nat) → List RawRec × ParseStatus
  | [] => ([], .done)
  | l :: ls =>
    if l.head? ≠ some 64 then ([], .panic)
    else
      let (id, desc) := splitFirst (· == 32) (trimEnd (l.drop 1))
      let sl := fastqSeqLines ls
      let ql := fastqQualLines sl.2.1 sl.2.2
      if ql.1.isEmpty then ([], .panic)
      else
        let (rs, st) := fastqRecords ql.2
        ({ id := id, desc := desc, seq := sl.1 } :: rs, st)
termination_by ls => ls.length
decreasing_by
  have h1 := fastqSeqLines_length_le ls
  have h2 := fastqQualLines_length_le (fastqSeqLines ls).2.1 (fastqSeqLines ls).2.2
  simp only [List.length_cons]; omega

def rawRecords (fmt : SeqFormat) (bytes : List Nat) : List RawRec × ParseStatus :=
  match fmt with
  | .fasta => fastaRecords (splitLines bytes)
  | .fastq => fastqRecords (splitLines bytes)

/-- `Sequences::next` until `None`: numbering by `current_record` -/
def readAll (fmt : SeqFormat) (bytes : List Nat) : List SeqRec × ParseStatus :=
  let (rs, st) := rawRecords fmt bytes
  (rs.zipIdx.map fun (r, i) => { n := i, id := r.id, seq := r.seq }, st)

/-- `Sequences::seq_stats`: (record count, total bases) of a separate pass -/
def seqStats (fmt : SeqFormat) (bytes : List Nat) : (Nat × Nat) × ParseStatus :=
  let (rs, st) := rawRecords fmt bytes
  ((rs.length, (rs.map fun r => r.seq.length).sum), st)

def endsWith (suf : String) (l : List Nat) : Bool := (suf.toList.map Char.toNat).isSuffixOf l

/-- `path.trim_end_matches(".gz")` removes every trailing repetition -/
def stripGz (l : List Nat) : List Nat :=
  if h : endsWith ".gz" l = true ∧ 3 ≤ l.length then stripGz (l.take (l.length - 3)) else l
termination_by l.length
decreasing_by simp only [List.length_take]; omega

/-- `SeqFormat::get` -/
def formatOf (name : List Nat) : Option SeqFormat :=
  let p := if endsWith ".gz" name then stripGz name else name
  if endsWith ".fq" p || endsWith ".fastq" p then some .fastq
  else if endsWith ".fasta" p || endsWith ".fa" p || endsWith ".fna" p then some .fasta
  else none

/-- `get_reader`: a `.gz` path is decoded member after member (all members), anything else is read as is -/
def readerBytes (name : List Nat) (members : List (List Nat)) : List Nat :=
  if endsWith ".gz" name then members.flatten else members.flatten

/-- format sniffing of the batch paths: `buffer.first() == Some(&b'>')`.  `none` on an empty stream, where the code
    (since the repair of F4) falls back to FASTQ: zero records in either format (`readAll_empty`). -/
def sniffFormat (bytes : List Nat) : Option SeqFormat :=
  match bytes with
  | [] => none
  | b :: _ => if b = 62 then some .fasta else some .fastq

end KT
