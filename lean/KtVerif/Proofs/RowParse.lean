import KtVerif.Model.RowParse
import KtVerif.Model.Vectors
import KtVerif.Proofs.Display
import KtVerif.Proofs.CgrF64
import KtVerif.Proofs.OptionMapM

/-!
# Helpers for `Props/RowParse.lean`: a written CGR row reads back as the points that were written

A printed number contains only digits and '.', so the bytes that structure a row (`(`, `,`, `)`, blank, newline) split it
where it was joined (`split_joinBy`); every field then reads back by `display_roundtrip`.  Both row syntaxes are rows of
tuples of some arity (`parseRowTuples_tuples`).
-/

namespace KT.Rp
open KT KT.Disp

attribute [local irreducible] f64One  -- see the note in `FloatDiv.lean`; `positional_chars` is applied across it

/-! ## the characters of a printed number -/

/-- digits and '.' only -/
def Clean (l : List Nat) : Prop := ∀ c ∈ l, (48 ≤ c ∧ c ≤ 57) ∨ c = 46

theorem Clean.of_allDig {l : List Nat} (h : AllDig l) : Clean l := fun c hc => Or.inl (h c hc)

theorem Clean.append {a b : List Nat} (ha : Clean a) (hb : Clean b) : Clean (a ++ b) := by
  intro c hc
  rcases List.mem_append.1 hc with h | h
  · exact ha c h
  · exact hb c h

theorem clean_dot : Clean [46] := by
  intro c hc
  rw [List.mem_singleton] at hc
  exact Or.inr hc

theorem positional_chars (D : Nat) (e : Int) : Clean (positional D e) := by
  unfold positional
  have hd : AllDig (natText D) := natText_allDig D
  simp only
  split
  · exact (Clean.of_allDig hd).append (Clean.of_allDig (AllDig.replicate _))
  · split
    · exact ((Clean.of_allDig (hd.take _)).append clean_dot).append (Clean.of_allDig (hd.drop _))
    · have h0 : Clean [48, 46] := (Clean.of_allDig AllDig.zero).append clean_dot
      exact (h0.append (Clean.of_allDig (AllDig.replicate _))).append (Clean.of_allDig hd)

/-- the empty text is not a number, and `positional D e` reads back as one -/
theorem positional_ne_nil (D : Nat) (e : Int) : positional D e ≠ [] := fun h => by
  have := parse_positional D e
  rw [h] at this
  cases this

theorem f64Display_chars (n : Nat) : Clean (f64Display n) := by
  unfold f64Display
  split
  · exact Clean.of_allDig AllDig.zero
  · exact positional_chars _ _

/-! ## `splitOnByte`, and fields joined by a separator byte -/

theorem splitOnByte_ne_nil (sep : Nat) : ∀ l : List Nat, splitOnByte sep l ≠ []
  | [] => by simp [splitOnByte]
  | c :: cs => by
    unfold splitOnByte
    split
    · exact List.cons_ne_nil _ _
    · split
      · exact List.cons_ne_nil _ _
      · exact List.cons_ne_nil _ _

theorem splitOnByte_cons_ne (sep c : Nat) (cs : List Nat) (h : c ≠ sep) (f : List Nat) (fs : List (List Nat))
    (hs : splitOnByte sep cs = f :: fs) : splitOnByte sep (c :: cs) = (c :: f) :: fs := by
  rw [splitOnByte, if_neg h, hs]

theorem splitOnByte_cons_eq (sep : Nat) (cs : List Nat) :
    splitOnByte sep (sep :: cs) = [] :: splitOnByte sep cs := by
  rw [splitOnByte, if_pos rfl]

theorem splitOnByte_append_sep (sep : Nat) (a rest : List Nat) (ha : sep ∉ a) :
    splitOnByte sep (a ++ sep :: rest) = a :: splitOnByte sep rest := by
  induction a with
  | nil => exact splitOnByte_cons_eq sep rest
  | cons c cs ih =>
    have hc : c ≠ sep := fun h => ha (h ▸ List.mem_cons_self)
    have hcs : sep ∉ cs := fun h => ha (List.mem_cons_of_mem _ h)
    exact splitOnByte_cons_ne sep c _ hc cs _ (ih hcs)

theorem splitOnByte_nosep (sep : Nat) (a : List Nat) (ha : sep ∉ a) : splitOnByte sep a = [a] := by
  induction a with
  | nil => rfl
  | cons c cs ih =>
    have hc : c ≠ sep := fun h => ha (h ▸ List.mem_cons_self)
    have hcs : sep ∉ cs := fun h => ha (List.mem_cons_of_mem _ h)
    exact splitOnByte_cons_ne sep c _ hc cs _ (ih hcs)

/-- the fields separated by `sep` (the first field, then every further one preceded by `sep`): `joinSp` is `joinBy 32`,
the inside of a tuple is `joinBy 44` -/
def joinBy (sep : Nat) : List (List Nat) → List Nat
  | [] => []
  | x :: xs => x ++ xs.flatMap (sep :: ·)

theorem joinSp_eq_joinBy : ∀ (toks : List (List Nat)), joinSp toks = joinBy 32 toks
  | [] => rfl
  | [x] => (List.append_nil x).symm
  | x :: y :: ys => by
    rw [joinSp, joinSp_eq_joinBy (y :: ys), joinBy, joinBy, List.flatMap_cons]
    · simp
    · exact List.cons_ne_nil _ _  -- the third equation of `joinSp` is for a tail that is not `[]`

theorem split_joinBy (sep : Nat) : ∀ (toks : List (List Nat)), toks ≠ [] → (∀ t ∈ toks, sep ∉ t) →
    splitOnByte sep (joinBy sep toks) = toks
  | [], h, _ => absurd rfl h
  | x :: xs, _, hs => by
    rw [joinBy]
    induction xs generalizing x with
    | nil => rw [List.flatMap_nil, List.append_nil]; exact splitOnByte_nosep sep x (hs x List.mem_cons_self)
    | cons y ys ih =>
      rw [List.flatMap_cons, List.cons_append, splitOnByte_append_sep sep x _ (hs x List.mem_cons_self),
        ih y (List.cons_ne_nil _ _) fun t ht => hs t (List.mem_cons_of_mem _ ht)]

theorem joinBy_ne_nil (sep : Nat) : ∀ (toks : List (List Nat)), toks ≠ [] → (∀ t ∈ toks, t ≠ []) → joinBy sep toks ≠ []
  | [], h, _ => absurd rfl h
  | x :: _, _, hne => List.append_ne_nil_of_left_ne_nil (hne x List.mem_cons_self) _

theorem not_mem_joinBy {s sep : Nat} (hs : s ≠ sep) : ∀ (toks : List (List Nat)), (∀ t ∈ toks, s ∉ t) → s ∉ joinBy sep toks
  | [], _ => List.not_mem_nil
  | x :: xs, h => by
    rw [joinBy, List.mem_append, List.mem_flatMap, not_or]
    refine ⟨h x List.mem_cons_self, ?_⟩
    rintro ⟨y, hy, hm⟩
    rcases List.mem_cons.1 hm with rfl | hm
    · exact hs rfl
    · exact h y (List.mem_cons_of_mem _ hy) hm

theorem not_mem_f64Display (n s : Nat) (hs : ¬ ((48 ≤ s ∧ s ≤ 57) ∨ s = 46)) : s ∉ f64Display n :=
  fun hm => hs (f64Display_chars n s hm)

/-! ## tuples and rows -/

theorem parseTuple_wrap (body : List Nat) :
    parseTuple ([40] ++ body ++ [41]) = (splitOnByte 44 body).mapM parseF64 := by
  have e : [40] ++ body ++ [41] = 40 :: (body ++ [41]) := by simp
  rw [e]
  unfold parseTuple
  simp only [List.getLast?_concat, List.dropLast_concat, if_true]

/-- `format!("({},{},…)", x1, x2, …)` -/
def tupleText (xs : List Nat) : List Nat := [40] ++ joinBy 44 (xs.map f64Display) ++ [41]

theorem parseTuple_tupleText (xs : List Nat) (hne : xs ≠ []) (h : ∀ x ∈ xs, IsF64 x) :
    parseTuple (tupleText xs) = some xs := by
  unfold tupleText
  rw [parseTuple_wrap, split_joinBy 44 _ (fun e => hne (List.map_eq_nil_iff.1 e))
    (List.forall_mem_map.2 fun x _ => not_mem_f64Display x 44 (by omega))]
  exact mapM_map_of_inv parseF64 f64Display xs fun x hx => display_roundtrip x (h x hx)

theorem tupleText_no_blank (xs : List Nat) : 32 ∉ tupleText xs := by
  unfold tupleText
  rw [List.mem_append, List.mem_append, not_or, not_or]
  exact ⟨⟨by decide, not_mem_joinBy (by decide) _ (List.forall_mem_map.2 fun x _ => not_mem_f64Display x 32 (by omega))⟩, by decide⟩

theorem parseRowTuples_join (toks : List (List Nat)) (vals : List (List Nat))
    (h32 : ∀ t ∈ toks, 32 ∉ t) (hne : ∀ t ∈ toks, t ≠ []) (hp : toks.mapM parseTuple = some vals) :
    parseRowTuples (joinSp toks ++ [10]) = some vals := by
  unfold parseRowTuples
  simp only [List.getLast?_concat, List.dropLast_concat, ne_eq, not_true_eq_false, if_false, joinSp_eq_joinBy]
  by_cases ht : toks = []
  · subst ht
    rw [joinBy, if_pos rfl]
    simpa using hp
  · rw [if_neg (joinBy_ne_nil 32 toks ht hne), split_joinBy 32 toks ht h32]
    exact hp

/-- a row of tuples of any arity reads back as the numbers written (`enc`: the numbers of one tuple, `txt`: its text) -/
theorem parseRowTuples_tuples {α : Type} (enc txt : α → List Nat) (htxt : ∀ t, txt t = tupleText (enc t)) (ts : List α)
    (hne : ∀ t ∈ ts, enc t ≠ []) (h : ∀ t ∈ ts, ∀ x ∈ enc t, IsF64 x) :
    parseRowTuples (joinSp (ts.map txt) ++ [10]) = some (ts.map enc) := by
  rw [show txt = tupleText ∘ enc from funext htxt, ← List.map_map]
  apply parseRowTuples_join
  · exact List.forall_mem_map.2 fun r _ => tupleText_no_blank r
  · exact List.forall_mem_map.2 fun r _ => List.cons_ne_nil _ _
  · exact mapM_map_of_inv parseTuple tupleText _
      (List.forall_mem_map.2 fun t ht => parseTuple_tupleText _ (hne t ht) (h t ht))

theorem cgrF64_points_isF64 (S : Nat) (s : List Nat) (pts : List (Nat × Nat)) (h : cgrF64 S s = some pts) :
    ∀ p ∈ pts, (∃ m j, m < 2 ^ 53 ∧ p.1 = m * 2 ^ j) ∧ (∃ m j, m < 2 ^ 53 ∧ p.2 = m * 2 ^ j) :=
  Fl.cgrF64_points_isF64 S s pts h

end KT.Rp
