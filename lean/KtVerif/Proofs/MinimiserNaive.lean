import KtVerif.Model.Minimiser
/-!
# The naive run machine, indexed by byte position, and its equality with `specRuns`

`naive` consumes one optional window minimiser per *byte position* (the window completed by that
byte, `none` when the byte completes no valid window) and keeps the open run.  It is `groupRuns`
re-indexed from window starts to window ends.
-/
namespace KT.Min
open KT

abbrev Cur := Option (Nat × Nat)

/-- one byte of the naive machine: `x` is the minimiser of the window completed at `pos` -/
def nstep (w pos : Nat) : Cur → Option Nat → Cur × Option Run
  | none, none => (none, none)
  | some (v, st), none => (none, some (v, st, pos))
  | none, some x => (some (x, pos + 1 - w), none)
  | some (v, st), some x =>
      if x = v then (some (v, st), none) else (some (x, pos + 1 - w), some (v, st, pos))

def nfinish (n : Nat) : Cur → List Run
  | none => []
  | some (v, st) => [(v, st, n)]

def naive (w n : Nat) : Nat → Cur → List (Option Nat) → List Run
  | _, cur, [] => nfinish n cur
  | pos, cur, x :: xs =>
    match nstep w pos cur x with
    | (cur', some o) => o :: naive w n (pos + 1) cur' xs
    | (cur', none) => naive w n (pos + 1) cur' xs

/-- minimiser of the window whose last byte is at `pos` -/
def posMin (w m : Nat) (s : List Nat) (pos : Nat) : Option Nat :=
  if pos + 1 < w then none else winMin w m s (pos + 1 - w)

/-- window `i` ends at byte `pos` -/
theorem groupRuns_eq_naive {w : Nat} : ∀ (l : List (Option Nat)) (i pos : Nat) (cur : Cur),
    pos + 1 = i + w → groupRuns w i cur l = naive w (pos + l.length) pos cur l
  | [], i, pos, cur, h => by
    have e : i + w - 1 = pos := Nat.sub_eq_of_eq_add h.symm
    cases cur
    · rfl
    · rw [groupRuns, e]; rfl
  | x :: xs, i, pos, cur, h => by
    have ih := fun cur' =>
      groupRuns_eq_naive xs (i + 1) (pos + 1) cur' (by rw [h, Nat.add_right_comm])
    have e1 : i + w - 1 = pos := Nat.sub_eq_of_eq_add h.symm
    have e2 : pos + 1 - w = i := Nat.sub_eq_of_eq_add h
    -- the last position `pos + (xs.length + 1)` in the form `pos + 1 + xs.length` of `ih`
    rw [List.length_cons, ← Nat.add_assoc, Nat.add_right_comm pos]
    match cur, x with
    | none, none => exact ih _
    | some (v, st), none => rw [groupRuns, e1, ih]; rfl
    | none, some x => rw [groupRuns, ih, naive, nstep, e2]
    | some (v, st), some x =>
      rw [groupRuns, naive, nstep, e1, e2, ih, ih]
      split <;> rfl

theorem naive_replicate_none (w n k pos : Nat) (l : List (Option Nat)) :
    naive w n pos none (List.replicate k none ++ l) = naive w n (pos + k) none l := by
  induction k generalizing pos with
  | zero => rfl
  | succ k ih =>
    -- one `none` consumed
    show naive w n (pos + 1) none (List.replicate k none ++ l) = _
    rw [ih, Nat.add_right_comm]
    rfl

theorem posMin_add {w m : Nat} {s : List Nat} (hw : 1 ≤ w) (j : Nat) :
    posMin w m s (w - 1 + j) = winMin w m s j := by
  have e : w - 1 + j + 1 = j + w := by omega
  rw [posMin, e, if_neg (Nat.not_lt.2 (Nat.le_add_left w j)), Nat.add_sub_cancel]

theorem specRuns_eq_naive (w m : Nat) (s : List Nat) (hw : 1 ≤ w) :
    specRuns w m s = naive w s.length 0 none ((List.range s.length).map (posMin w m s)) := by
  -- `k` leading bytes complete no window; then byte `k + j` completes window `j`, for `j < n`
  obtain ⟨k, n, hn, hk, hlen, h0⟩ : ∃ k n, s.length + 1 - w = n ∧ k ≤ w - 1 ∧ s.length = k + n ∧
      (n = 0 ∨ k = w - 1) := ⟨min (w - 1) s.length, _, rfl, by omega⟩
  have hnone : (List.range k).map (posMin w m s) = List.replicate k none := by
    rw [List.eq_replicate_iff]
    refine ⟨by simp, fun b hb => ?_⟩
    obtain ⟨p, hp, rfl⟩ := List.mem_map.1 hb
    exact if_pos (by have := List.mem_range.1 hp; omega)
  rw [specRuns, winMins, hn, hlen, List.range_add, List.map_append, hnone, naive_replicate_none,
    Nat.zero_add, List.map_map]
  rcases h0 with rfl | rfl
  · rfl
  · rw [groupRuns_eq_naive _ 0 (w - 1) none (by omega), List.length_map, List.length_range]
    congr 1
    exact List.map_congr_left fun j _ => (posMin_add hw j).symm

end KT.Min
