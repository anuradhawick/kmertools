import KtVerif.Model.Vectors
import KtVerif.Proofs.VecOligo
import KtVerif.Props.C04
import KtVerif.Proofs.Cgr
import KtVerif.Proofs.OptionMapM
/-!
# Helpers for C12: the k-mer chaos-game row (`OligoCgrComputer::vectorise_one`)

The row is a `mapM` over the column texts zipped with the oligo values; what a successful row consists of is said once,
for any texts and values (`row_eq`), and then for the texts and values of the model (`oligoCgrRow_cols`).
-/
namespace KT.Vec
open KT

theorem cgrEndLoop_isSome (S : Nat) (t : List Nat) (p : Nat × Nat)
    (h : ∀ c ∈ t, c = 65 ∨ c = 67 ∨ c = 71 ∨ c = 84) : (cgrEndLoop S p t).isSome = true := by
  rw [Fl.cgrEndLoop_eq_walk, Option.isSome_map, Option.isSome_iff_ne_none, Ne, Fl.walk_eq_none_iff]
  rintro ⟨b, hb, hn⟩
  rcases h b hb with rfl | rfl | rfl | rfl <;> cases hn

/-- the per-column step of `oligoCgrRow` -/
def cgrCell (S : Nat) (tf : List Nat × Nat) : Option (Nat × Nat × Nat) :=
  match cgrEndLoop S (cgrCentre S) tf.1 with
  | none => none
  | some (x, y) => some (x, y, tf.2)

theorem oligoCgrRow_eq (pm : PosMaps) (k S : Nat) (norm : Bool) (s : List Nat) :
    oligoCgrRow pm k S norm s = ((pm.posKmer.map (numericToKmer k)).zip (oligoVec pm k norm s)).mapM (cgrCell S) := rfl

theorem cgrCell_eq_some {S : Nat} {tf : List Nat × Nat} {q : Nat × Nat × Nat} (h : cgrCell S tf = some q) :
    cgrEndLoop S (cgrCentre S) tf.1 = some (q.1, q.2.1) ∧ tf.2 = q.2.2 := by
  unfold cgrCell at h
  split at h
  · cases h
  · rename_i x y he
    cases h
    exact ⟨he, rfl⟩

theorem cgrCell_ne_none {S : Nat} {tf : List Nat × Nat} (h : ∀ c ∈ tf.1, c = 65 ∨ c = 67 ∨ c = 71 ∨ c = 84) :
    cgrCell S tf ≠ none := by
  obtain ⟨p, hp⟩ := Option.isSome_iff_exists.1 (cgrEndLoop_isSome S tf.1 (cgrCentre S) h)
  unfold cgrCell
  rw [hp]
  exact Option.some_ne_none _

/-- a successful row over any column texts `T` and values `F`: the coordinates are the end points of the walks over the
texts, the third components are the values -/
theorem row_eq {S : Nat} {T : List (List Nat)} {F : List Nat} {row : List (Nat × Nat × Nat)} (hlen : T.length = F.length)
    (h : (T.zip F).mapM (cgrCell S) = some row) :
    row.map (fun t => some (t.1, t.2.1)) = T.map (cgrEndLoop S (cgrCentre S)) ∧ row.map (fun t => t.2.2) = F := by
  have hc := map_eq_map_of_mapM (g := cgrEndLoop S (cgrCentre S) ∘ Prod.fst) (fun _ _ e => (cgrCell_eq_some e).1) h
  have hv := map_eq_map_of_mapM (g := Prod.snd) (fun _ _ e => (cgrCell_eq_some e).2) h
  rw [← List.map_map, List.map_fst_zip (Nat.le_of_eq hlen)] at hc
  rw [List.map_snd_zip (Nat.le_of_eq hlen.symm)] at hv
  exact ⟨hc.symm, hv.symm⟩

theorem texts_eq (k : Nat) (hk : k ≤ 31) :
    (kmerPosMaps k).posKmer.map (numericToKmer k) = (canonList k).map (decodeSpec k) := by
  rw [posKmer_eq_canonList k hk]
  exact List.map_congr_left (fun x _ => numericToKmer_eq_spec k x)

theorem oligoVec_length (k : Nat) (norm : Bool) (s : List Nat) (hk1 : 1 ≤ k) (hk : k ≤ 31) :
    (oligoVec (kmerPosMaps k) k norm s).length = (canonList k).length := by
  unfold oligoVec
  rw [oligoCounts_eq_spec k s hk1 hk]
  cases norm <;> exact (List.length_map _).trans (oligoRowSpec_length k s)

theorem oligoCgrRow_cols (k S : Nat) (norm : Bool) (s : List Nat) (hk1 : 1 ≤ k) (hk : k ≤ 31)
    (row : List (Nat × Nat × Nat)) (h : oligoCgrRow (kmerPosMaps k) k S norm s = some row) :
    row.map (fun t => some (t.1, t.2.1)) = (canonList k).map (fun x => cgrEndLoop S (cgrCentre S) (decodeSpec k x)) ∧
    row.map (fun t => t.2.2) = oligoVec (kmerPosMaps k) k norm s := by
  rw [oligoCgrRow_eq, texts_eq k hk] at h
  have := row_eq (by rw [List.length_map, oligoVec_length k norm s hk1 hk]) h
  rwa [List.map_map] at this

end KT.Vec
