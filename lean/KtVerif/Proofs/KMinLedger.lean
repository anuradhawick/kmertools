import KtVerif.Proofs.KMinSim
/-!
# C18 (b): the k-mer lists attached to the runs concatenate to the canonical w-mers

The `kVal*` registers are the registers of `Min.Regs` at width `w` over the same clean suffix
that carries the invariant of the plain iterator (`Min.InvQ` on the projection).  A w-mer is
pushed exactly when the clean suffix reaches length `w`; `kbuff` is empty before that, and from
then on the buffer is full and a run is open, so nothing pending is ever dropped.
-/
namespace KT.KMin
open KT KT.Min

/-- the canonical w-mer completed by the last byte of the clean stretch `q`, if any -/
def kOut (w : Nat) (q : List Nat) : List Nat :=
  if w ≤ q.length then [canonAt w q (q.length - w)] else []

theorem kOut_short {w : Nat} {q : List Nat} (h : q.length < w) : kOut w q = [] :=
  if_neg (Nat.not_le_of_lt h)

theorem canons_snoc {w : Nat} (hw1 : 1 ≤ w) (p : List Nat) (b : Nat) :
    canons w (p ++ [b]) = canons w p ++ kOut w (cleanSuffix (p ++ [b])) := by
  rw [canons, specKmers_snoc hw1, List.map_append, emitAt, kOut]
  by_cases h : w ≤ (cleanSuffix (p ++ [b])).length
  · rw [if_pos h, if_pos h, canonAt_last, lastN_cleanSuffix h]; rfl
  · rw [if_neg h, if_neg h]; rfl

structure KInv (w m n : Nat) (q : List Nat) (s : KMG) : Prop where
  mg : InvQ w m n q (proj s)
  kr : Regs w q s.kValF s.kValR s.kValL
  kb : q.length < w → s.kbuff = []

theorem KInv.attach {w m n : Nat} {q : List Nat} {t : MG × Option Run} {k : KMG}
    (hmg : InvQ w m n q t.1) (hkr : Regs w q k.kValF k.kValR k.kValL)
    (hkb : q.length < w → k.kbuff = []) : KInv w m n q (attach t k).1 := by
  rcases t with ⟨t', _ | r⟩
  · exact ⟨hmg, hkr, hkb⟩
  · exact ⟨hmg, hkr, fun _ => rfl⟩

/-- what one step has to achieve: the invariant, and the ledger (what leaves with a run and what
    stays pending is what was pending and the w-mer this byte completes) -/
def KGood (w m n : Nat) (q' : List Nat) (s : KMG) (res : KMG × Option KRun) : Prop :=
  KInv w m (n + 1) q' res.1 ∧ outK res.2 ++ res.1.kbuff.reverse = s.kbuff.reverse ++ kOut w q'

section
variable {w m n : Nat} {q : List Nat} {s : KMG} {b : Nat}

theorem kgood_amb (hm1 : 1 ≤ m) (hmw : m ≤ w) (h : KInv w m n q s) (hb : ¬ nt4 b < 4) :
    KGood w m n [] s (KMG.step w m n s b) := by
  have hw : ([] : List Nat).length < w := Nat.lt_of_lt_of_le hm1 hmw
  rw [kstep_amb hb, KGood, kOut_short hw]
  refine ⟨⟨InvQ.reset hm1 hmw (n + 1), Regs.nil w, fun _ => rfl⟩, ?_⟩
  by_cases hc : w ≤ q.length
  · rw [if_pos ((h.mg.buff_full_iff hmw).2 hc)]; rfl
  · -- no run is emitted: nothing was pending
    rw [if_neg (mt (h.mg.buff_full_iff hmw).1 hc), h.kb (Nat.lt_of_not_le hc)]; rfl

theorem kgood_clean (hm1 : 1 ≤ m) (hmw : m ≤ w) (hw : w ≤ 31) (h : KInv w m n q s)
    (hqn : q.length ≤ n) (hq' : ∀ x ∈ q ++ [b], clean x = true) (hb : nt4 b < 4) :
    KGood w m n (q ++ [b]) s (KMG.step w m n s b) := by
  have hw1 : 1 ≤ w := Nat.le_trans hm1 hmw
  have hql : (q ++ [b]).length = q.length + 1 := List.length_append
  have hmg := (good_clean hm1 hmw (Nat.le_trans hmw hw) h.mg hqn hq' hb).1
  have hkr := h.kr.roll hw1 hw hb
  obtain ⟨-, heq, hL1, hL2⟩ := satCount hw1 q.length
  rw [← h.kr.hL] at heq hL1 hL2
  rw [kstep_clean hb, KGood, attach_ledger]
  by_cases hc : w ≤ q.length + 1
  · -- the w-register is full: the canonical w-mer of the last `w` bytes is pushed
    have hL : s.mValL = min q.length (m - 1) := h.mg.hL
    have hl : ¬ s.mValL + 1 < m := by
      rw [hL, (satCount hm1 q.length).1]
      exact Nat.not_lt.2 (Nat.le_trans hmw hc)
    rw [kroll, if_pos ⟨hl, heq.2 hc⟩, kOut, if_pos (hql ▸ hc), ← min_regs_eq hq' (hql ▸ hc), ← hkr.hF,
      ← hkr.hR]
    exact ⟨.attach hmg ⟨hkr.hF, hkr.hR, (hL2 hc).trans hkr.hL⟩
      fun h' => absurd (hql ▸ hc) (Nat.not_le_of_lt h'), List.reverse_cons⟩
  · have hlt := Nat.lt_of_not_le hc
    rw [kroll, if_neg fun hp => hc (heq.1 hp.2), kOut_short (hql ▸ hlt), List.append_nil]
    exact ⟨.attach hmg ⟨hkr.hF, hkr.hR, (hL1 hlt).trans hkr.hL⟩
      fun _ => h.kb (Nat.lt_of_succ_lt hlt), rfl⟩

end

theorem kstep_good {w m : Nat} (hm1 : 1 ≤ m) (hmw : m ≤ w) (hw : w ≤ 31) (p : List Nat) (s : KMG)
    (h : KInv w m p.length (cleanSuffix p) s) (b : Nat) :
    KGood w m p.length (cleanSuffix (p ++ [b])) s (KMG.step w m p.length s b) := by
  by_cases hb : nt4 b < 4
  · have hq' := cleanSuffix_clean (p ++ [b])
    rw [cleanSuffix_snoc_clean p (decide_eq_true hb)] at hq' ⊢
    exact kgood_clean hm1 hmw hw h (cleanSuffix_length_le p) hq' hb
  · rw [cleanSuffix_snoc_amb p (decide_eq_false hb)]
    exact kgood_amb hm1 hmw h hb

theorem run_ledger {w m : Nat} (hm1 : 1 ≤ m) (hmw : m ≤ w) (hw : w ≤ 31) (N : Nat) :
    ∀ (rest p : List Nat) (s : KMG) (acc : List Nat), KInv w m p.length (cleanSuffix p) s →
      acc ++ s.kbuff.reverse = canons w p →
      acc ++ (KMG.run w m N p.length s rest).flatMap (fun r => r.2.2.2) = canons w (p ++ rest) := by
  intro rest
  induction rest with
  | nil =>
    intro p s acc h hacc
    rw [List.append_nil, ← hacc, KMG.run, KMG.finish]
    by_cases ha : s.active ≠ U64MAX
    · rw [if_pos ha]; simp only [List.flatMap_cons, List.flatMap_nil, List.append_nil]
    · -- no run is open: nothing is pending
      rw [if_neg ha, h.kb (Nat.lt_of_not_le fun hw => ha (h.mg.full hw).1)]; rfl
  | cons b bs ih =>
    intro p s acc h hacc
    obtain ⟨hinv, hled⟩ := kstep_good hm1 hmw hw p s h b
    have hlen : (p ++ [b]).length = p.length + 1 := List.length_append
    have ih' := ih (p ++ [b]) (KMG.step w m p.length s b).1
      (acc ++ outK (KMG.step w m p.length s b).2) (hlen ▸ hinv)
      (by rw [List.append_assoc, hled, ← List.append_assoc, hacc, canons_snoc (Nat.le_trans hm1 hmw)])
    rw [hlen, List.append_assoc acc, List.append_assoc p, List.singleton_append] at ih'
    rw [KMG.run, ← ih']
    rcases KMG.step w m p.length s b with ⟨s', _ | o⟩
    · rfl
    · simp only [List.flatMap_cons, outK]

theorem conserves {w m : Nat} (hm1 : 1 ≤ m) (hmw : m ≤ w) (hw : w ≤ 31) (s : List Nat) :
    (kmerMinimisers w m s).flatMap (fun r => r.2.2.2) = canons w s := by
  have hc : canons w [] = [] := by
    rw [canons, specKmers_of_short (Nat.lt_of_lt_of_le hm1 hmw)]; rfl
  exact run_ledger hm1 hmw hw s.length s [] KMG.init []
    ⟨InvQ.reset hm1 hmw 0, Regs.nil w, fun _ => rfl⟩ hc.symm

end KT.KMin
