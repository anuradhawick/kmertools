import KtVerif.Model.Py
import KtVerif.Proofs.Cgr
/-!
# Helpers for C13: the Python bindings' duplicated loops agree with the core's; bytes of UTF-8

The float emulation is never unfolded: `cgrMid a b` is only ever folded from / unfolded to
`f64Half (f64Add a b)`.
-/
namespace KT.Py
open KT

theorem pyOligoLoop_eq_foldl (pm : PosMaps) (ks : List (Nat × Nat)) : ∀ (vec : Array Nat) (total : Nat),
    pyOligoLoop pm ks vec total =
      ks.foldl (fun (acc : Array Nat × Nat) p =>
        (acc.1.modify (pm.posMap[min p.1 p.2]!) (· + 1), acc.2 + 1)) (vec, total) := by
  induction ks with
  | nil => intro vec total; rw [pyOligoLoop, List.foldl_nil]
  | cons p rest ih =>
    intro vec total
    obtain ⟨f, r⟩ := p
    rw [pyOligoLoop, List.foldl_cons]
    exact ih _ _

theorem pyOligoLoop_eq_accum (pm : PosMaps) (ks : List (Nat × Nat)) :
    pyOligoLoop pm ks (Array.replicate pm.kcount 0) 0 = oligoAccum pm ks := by
  rw [pyOligoLoop_eq_foldl]; rfl

theorem cgrMid_fold (a b : Nat) : f64Half (f64Add a b) = cgrMid a b := by unfold cgrMid; rfl

theorem pyCgrLoop_eq (S : Nat) (bs : List Nat) : ∀ (m : Nat × Nat) (acc : List (Nat × Nat)),
    pyCgrLoop S bs m acc = (cgrLoop S m bs).map fun l => acc.reverse ++ l := by
  simp only [Fl.cgrLoop_eq_walk]
  induction bs with
  | nil => intro m acc; rw [pyCgrLoop, Fl.walk_nil, Option.map_some, List.append_nil]
  | cons b bs ih =>
    intro m acc
    rw [pyCgrLoop, Fl.cgrCorner_eq_spec, Fl.walk_cons]
    cases cornerSpec b with
    | none => rfl
    | some c =>
      simp only [cgrMid_fold, ih, Fl.stepF]
      generalize Fl.walk (Fl.stepF S) _ bs = o
      cases o with
      | none => rfl
      | some rest => simp only [Option.map_some, List.reverse_cons, List.append_assoc, List.singleton_append]

/-- a continuation byte `10xxxxxx` -/
theorem cont_bounds (x : Nat) : 128 ≤ 0x80 + x % 64 ∧ 0x80 + x % 64 < 256 := by omega

/-- a lead byte: the marker `l` plus the top bits `c / d`, which fit in the `room` the marker leaves -/
theorem lead_bounds {l c d room : Nat} (hl : 128 ≤ l) (hroom : l + room ≤ 256) (hc : c < room * d) :
    128 ≤ l + c / d ∧ l + c / d < 256 :=
  ⟨Nat.le_trans hl (Nat.le_add_right _ _),
    Nat.lt_of_lt_of_le (Nat.add_lt_add_left (Nat.div_lt_of_lt_mul (Nat.mul_comm room d ▸ hc)) l) hroom⟩

/-- a byte ≥ 128 is none of the ASCII letters the tables compare with -/
theorem ne_of_high {b : Nat} (h : 128 ≤ b) (n : Nat) (hn : n < 128) : ¬ b = n :=
  fun e => Nat.not_le_of_lt hn (e ▸ h)

theorem nt4_high (b : Nat) (h : 128 ≤ b) : nt4 b = 4 := by
  simp [nt4, ne_of_high h, Nat.not_lt_of_le (Nat.le_trans (by decide : 4 ≤ 128) h)]

theorem cgrCorner_high (b : Nat) (h : 128 ≤ b) : cgrCorner b = none := by
  simp [cgrCorner, ne_of_high h]

end KT.Py
