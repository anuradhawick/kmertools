import KtVerif.Model.Minimiser
import KtVerif.Proofs.KmerRegs
import KtVerif.Proofs.MinimiserLeftMin
import KtVerif.Proofs.MinimiserNaive
import KtVerif.Proofs.RunDecompSpec
/-!
# Windows of the specification in terms of the clean suffix of the consumed prefix

The minimiser of a `w`-window depends on that window alone (`mmers_eq_codes`).  So the minimiser
of the window that ends with the consumed prefix is a function `pmQ` of the prefix's clean suffix
(`winMin_prefix`): the least of the last `w - m + 1` canonical `m`-mer codes, which is what the
ring buffer holds.
-/
namespace KT.Min
open KT

theorem canonAt_window {m w : Nat} (s : List Nat) (i j : Nat) (h : j + m ≤ w) :
    canonAt m (window w s i) j = canonAt m s (i + j) := by
  rw [canonAt, canonAt, window_window s i j h]

theorem canonAt_lt {m : Nat} {s : List Nat} {i : Nat} (h : ∀ b ∈ window m s i, clean b = true) :
    canonAt m s i < 4 ^ m :=
  calc canonAt m s i ≤ enc (window m s i) := Nat.min_le_left _ _
    _ < 4 ^ (window m s i).length := enc_lt (List.all_eq_true.2 h)
    _ ≤ 4 ^ m := Nat.pow_le_pow_right (by decide) (window_length_le m s i)

theorem canonAt_last {m : Nat} (Q : List Nat) :
    canonAt m Q (Q.length - m) = min (enc (lastN m Q)) (rcEnc (lastN m Q)) := by
  rw [canonAt, window_last]

def codes (m : Nat) (q : List Nat) : List Nat := (List.range (q.length + 1 - m)).map (canonAt m q)

theorem codes_length (m : Nat) (q : List Nat) : (codes m q).length = q.length + 1 - m := by
  rw [codes, List.length_map, List.length_range]

theorem codes_of_short {m : Nat} {q : List Nat} (h : q.length < m) : codes m q = [] := by
  rw [codes, Nat.sub_eq_zero_of_le h]; rfl

theorem codes_lt {m : Nat} {q : List Nat} (h : ∀ b ∈ q, clean b = true) :
    ∀ x ∈ codes m q, x < 4 ^ m := by
  intro x hx
  obtain ⟨j, _, rfl⟩ := List.mem_map.1 hx
  exact canonAt_lt fun b hb => h b (mem_window hb)

theorem codes_snoc {m : Nat} (q : List Nat) (b : Nat) (h : m ≤ q.length + 1) :
    codes m (q ++ [b]) = codes m q ++ [canonAt m (q ++ [b]) ((q ++ [b]).length - m)] := by
  rw [codes, List.length_append, List.length_singleton, Nat.succ_sub h, List.range_succ,
    List.map_append, codes]
  congr 1
  refine List.map_congr_left fun j hj => ?_
  have hj' : j + m ≤ q.length := Nat.le_of_lt_succ (Nat.add_lt_of_lt_sub (List.mem_range.1 hj))
  rw [canonAt, canonAt, window_append_left [b] hj']

theorem codes_drop {m d : Nat} {q : List Nat} (hd : d ≤ q.length) :
    codes m (q.drop d) = (codes m q).drop d := by
  have hlen : (q.drop d).length + 1 - m = q.length + 1 - m - d := by
    rw [List.length_drop, ← Nat.sub_add_comm hd, Nat.sub_right_comm]
  -- bring the right side to a map over the same range, of `j ↦ canonAt m q (d + j)`
  rw [codes, codes, hlen, ← List.map_drop, List.range_eq_range' (n := q.length + 1 - m),
    List.drop_range', List.range'_eq_map_range, List.map_map]
  refine List.map_congr_left fun j _ => ?_
  rw [Function.comp, Nat.zero_add, Nat.mul_one, canonAt, canonAt, window_add]

theorem codes_lastN {w m : Nat} (hmw : m ≤ w) (Q : List Nat) :
    codes m (lastN w Q) = lastN (w - m + 1) (codes m Q) := by
  have e : Q.length + 1 - m - (w - m + 1) = Q.length - w := by
    rw [Nat.sub_sub, ← Nat.add_assoc, Nat.add_sub_of_le hmw, Nat.add_sub_add_right]
  rw [lastN, lastN, codes_length, codes_drop (Nat.sub_le _ _), e]

/-- `min_m_val`, the value pushed into the ring buffer -/
theorem min_regs_eq {m : Nat} {q : List Nat} (h : ∀ b ∈ q, clean b = true)
    (hq : m ≤ q.length) : min (regF m q) (regR m q) = canonAt m q (q.length - m) := by
  rw [canonAt_last, regF_eq_enc hq (List.all_eq_true.2 fun x hx => h x (mem_lastN hx)), regR_eq_rcEnc hq]

theorem mmers_eq_codes {w m : Nat} (hmw : m ≤ w) {s : List Nat} {i : Nat}
    (hl : (window w s i).length = w) : mmersOfWindow w m s i = codes m (window w s i) := by
  rw [mmersOfWindow, codes, hl, Nat.sub_add_comm hmw]
  exact List.map_congr_left fun j hj =>
    (canonAt_window s i j (Nat.add_le_of_le_sub hmw (Nat.le_of_lt_succ (List.mem_range.1 hj)))).symm

theorem winMin_lt {w m : Nat} (hmw : m ≤ w) {s : List Nat} {i x : Nat}
    (h : winMin w m s i = some x) : x < 4 ^ m := by
  obtain ⟨hv, rfl⟩ := Runs.winMin_eq_some_iff.1 h
  rw [winValid, Bool.and_eq_true, decide_eq_true_eq, List.all_eq_true] at hv
  have hl := window_length hv.1
  rw [mmers_eq_codes hmw hl]
  refine codes_lt hv.2 _ (listMin_mem _ (List.ne_nil_of_length_pos ?_))
  rw [codes_length, hl, Nat.sub_add_comm hmw]
  exact Nat.succ_pos _

/-- minimiser of the window completed by the last byte of the prefix, from its clean suffix -/
def pmQ (w m : Nat) (Q : List Nat) : Option Nat :=
  if w ≤ Q.length then some (listMin (lastN (w - m + 1) (codes m Q))) else none

theorem pmQ_short {w m : Nat} {q : List Nat} (h : q.length < w) : pmQ w m q = none :=
  if_neg (Nat.not_le_of_lt h)

theorem pmQ_full {w m : Nat} {q : List Nat} {a bp : Nat} (h : w ≤ q.length)
    (hlm : IsLeftMin (lastN (w - m + 1) (codes m q)) a bp) : pmQ w m q = some a := by
  rw [pmQ, if_pos h, hlm.listMin_eq]

theorem winMin_prefix {w m : Nat} (hmw : m ≤ w) (P R : List Nat) (hw : w ≤ P.length) :
    winMin w m (P ++ R) (P.length - w) = pmQ w m (cleanSuffix P) := by
  have hwin : window w (P ++ R) (P.length - w) = lastN w P := window_prefix P R hw
  have hl : (lastN w P).length = w := lastN_length_of_le hw
  have hin : P.length - w + w ≤ (P ++ R).length := by
    rw [Nat.sub_add_cancel hw, List.length_append]; exact Nat.le_add_right _ _
  have hiff : (lastN w P).all clean = true ↔ w ≤ (cleanSuffix P).length := by
    rw [← lastN_clean_iff w P, hl, List.all_eq_true]
    exact (and_iff_right (Nat.le_refl w)).symm
  rw [winMin, pmQ, winValid, hwin, decide_eq_true hin, Bool.true_and]
  by_cases h2 : w ≤ (cleanSuffix P).length
  · rw [if_pos (hiff.2 h2), if_pos h2, ← codes_lastN hmw, lastN_cleanSuffix h2, ← hwin,
      mmers_eq_codes hmw (hwin ▸ hl)]
  · rw [if_neg (mt hiff.1 h2), if_neg h2]

theorem posMin_eq {w m : Nat} (hmw : m ≤ w) {s p : List Nat} {b : Nat} {bs : List Nat}
    (hs : s = p ++ b :: bs) : posMin w m s p.length = pmQ w m (cleanSuffix (p ++ [b])) := by
  have hl : (p ++ [b]).length = p.length + 1 := List.length_append
  rw [posMin, hs, List.append_cons p b bs, ← hl]
  generalize p ++ [b] = P
  by_cases h : P.length < w
  · rw [if_pos h, pmQ_short (Nat.lt_of_le_of_lt (cleanSuffix_length_le P) h)]
  · rw [if_neg h, winMin_prefix hmw P bs (Nat.le_of_not_lt h)]

end KT.Min
