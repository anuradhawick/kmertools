import KtVerif.Spec.Cli
import KtVerif.Model.MinOut
/-!
# Helpers for C15 / C16: the decision function as arithmetic, accepted parameters inside the core domain

`cliDecide` is a chain of `if`s whose `then` branches refuse.  `ite_run_iff` takes one link off such a chain when
the question is "does it run", `ite_reason` when the question is "which option does a refusal name".
-/
namespace KT.Cl
open KT

theorem inRange_iff (lo hi x : Nat) : inRange lo hi x = true ↔ lo ≤ x ∧ x ≤ hi := by
  unfold inRange
  rw [Bool.and_eq_true, decide_eq_true_iff, decide_eq_true_iff]

theorem not_inRange_iff (lo hi x : Nat) : ¬ (!inRange lo hi x) = true ↔ lo ≤ x ∧ x ≤ hi := by
  rw [Bool.not_eq_true, Bool.not_eq_false', inRange_iff]

theorem ite_run_iff {c : Prop} [Decidable c] {r d : Decision} (hr : r ≠ .run) :
    (if c then r else d) = .run ↔ ¬c ∧ d = .run := by
  by_cases h : c
  · rw [if_pos h]; exact ⟨fun e => absurd e hr, fun e => absurd h e.1⟩
  · rw [if_neg h]; exact ⟨fun e => ⟨h, e⟩, fun e => e.2⟩

def Reason (o : String) : Prop := o = "k-size" ∨ o = "bin-size" ∨ o = "bin-count" ∨ o = "memory" ∨ o = "m-size"

theorem ite_reason {c : Prop} [Decidable c] {o' o : String} {d : Decision} (h' : Reason o')
    (hd : d = .refuseRange o → Reason o) : (if c then .refuseRange o' else d) = .refuseRange o → Reason o := by
  by_cases h : c
  · rw [if_pos h]; intro e; cases e; exact h'
  · rw [if_neg h]; exact hd

/-- every accepted `k` / `m` range lies inside `1..=31`, where the generator constructors do not overflow -/
theorem kmerNewSafe_of {lo hi k : Nat} (hlo : 1 ≤ lo) (hhi : hi ≤ 31) (h : lo ≤ k ∧ k ≤ hi) : kmerNewSafe k = true := by
  rw [kmerNewSafe, Bool.and_eq_true, decide_eq_true_iff, decide_eq_true_iff]
  exact ⟨Nat.le_trans hlo h.1, Nat.lt_of_le_of_lt (Nat.mul_le_mul_left 2 (Nat.le_trans h.2 hhi)) (by decide)⟩

theorem effW_ge (w m : Nat) (seq : List Nat) (hw : w = 0 ∨ m ≤ w) : m ≤ effW w m seq := by
  unfold effW
  split
  · exact Nat.le_max_right _ _
  · exact hw.resolve_left ‹_›

theorem minOutSafe_of {lo hi m w : Nat} (hlo : 1 ≤ lo) (hhi : hi ≤ 31) (hm : lo ≤ m ∧ m ≤ hi) (hw : w = 0 ∨ m < w)
    (seq : List Nat) : minOutSafe w m seq = true := by
  -- `minOutSafe w m seq` is `minNewSafe (effW w m seq) m`, which checks what `kmerNewSafe m` checks and `m ≤ window`
  show (kmerNewSafe m && decide (m ≤ effW w m seq)) = true
  rw [kmerNewSafe_of hlo hhi hm, Bool.true_and, decide_eq_true_iff]
  exact effW_ge w m seq (hw.imp_right Nat.le_of_lt)

end KT.Cl
