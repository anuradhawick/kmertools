import KtVerif.Model.Float
import Mathlib.Tactic.Ring
/-!
# Basic facts about the exact binary64 emulation (`KtVerif/Model/Float.lean`)

Everything later files need of `roundRat` (nearest double) is here: it is monotone, fixes doubles (`IsF64`), returns
doubles, has relative error `2^-53`, and does not change when numerator and denominator are scaled.  Monotone + exact give
the two "sandwich" lemmas `roundRat_le_of_le` / `le_roundRat_of_le`, which is how bounds are pushed through an operation.
-/
namespace KT

/-- `n` is a (non-negative) double in scaled units: at most 53 significant bits -/
def IsF64 (n : Nat) : Prop := ∃ m j, m < 2 ^ 53 ∧ n = m * 2 ^ j

namespace Fl

/-! ## bitLen -/

theorem bitLen_zero : bitLen 0 = 0 := rfl

theorem bitLen_le_iff (n k : Nat) : bitLen n ≤ k ↔ n < 2 ^ k := by
  unfold bitLen
  by_cases h : n = 0
  · subst h; simp
  · rw [if_neg h, Nat.add_one_le_iff]
    exact Nat.log2_lt h

theorem lt_bitLen_iff (n k : Nat) : k < bitLen n ↔ 2 ^ k ≤ n := by
  rw [← Nat.not_le, bitLen_le_iff, Nat.not_lt]

theorem lt_two_pow_bitLen (n : Nat) : n < 2 ^ bitLen n := (bitLen_le_iff n _).1 (Nat.le_refl _)

theorem bitLen_pos {n : Nat} (h : n ≠ 0) : 0 < bitLen n := (lt_bitLen_iff n 0).2 (Nat.pos_of_ne_zero h)

theorem two_pow_bitLen_pred_le (n : Nat) (h : n ≠ 0) : 2 ^ (bitLen n - 1) ≤ n :=
  (lt_bitLen_iff n _).1 (Nat.sub_one_lt (Nat.ne_of_gt (bitLen_pos h)))

theorem bitLen_mono {a b : Nat} (h : a ≤ b) : bitLen a ≤ bitLen b := by
  rw [bitLen_le_iff]; exact Nat.lt_of_le_of_lt h (lt_two_pow_bitLen b)

theorem bitLen_mul_two_pow (x j : Nat) (hx : x ≠ 0) : bitLen (x * 2 ^ j) = bitLen x + j := by
  apply Nat.le_antisymm
  · rw [bitLen_le_iff, Nat.pow_add]
    exact Nat.mul_lt_mul_of_pos_right (lt_two_pow_bitLen x) (Nat.two_pow_pos j)
  · have h := Nat.mul_le_mul_right (2 ^ j) (two_pow_bitLen_pred_le x hx)
    rw [← Nat.pow_add, ← lt_bitLen_iff] at h
    have := bitLen_pos hx
    omega

/-- the shift `sh` that `roundRat` applies leaves a 53-bit significand: the quotient is below `2^53` units `2^sh`, and from
    `2^52` units on once there is a shift (`shift_le`, multiplied out by `b`) -/
theorem lt_shift (q : Nat) : q < 2 ^ 53 * 2 ^ (bitLen q - 53) := by
  rw [← Nat.pow_add, ← bitLen_le_iff]
  exact Nat.sub_le_iff_le_add'.1 (Nat.le_refl _)

theorem shift_le (a b : Nat) (h : 53 < bitLen (a / b)) : 2 ^ 52 * (b * 2 ^ (bitLen (a / b) - 53)) ≤ a := by
  rw [Nat.mul_comm b, ← Nat.mul_assoc, ← Nat.pow_add]
  apply Nat.mul_le_of_le_div
  rw [← lt_bitLen_iff]
  omega

/-! ## roundDiv -/

theorem div_le_roundDiv (a b : Nat) : a / b ≤ roundDiv a b := by
  unfold roundDiv
  simp only
  split
  · exact Nat.le_succ _
  · exact Nat.le_refl _

theorem roundDiv_le_succ (a b : Nat) : roundDiv a b ≤ a / b + 1 := by
  unfold roundDiv
  simp only
  split
  · exact Nat.le_refl _
  · exact Nat.le_succ _

/-- the result is within half a unit of `a / b` -/
theorem roundDiv_bounds (a b : Nat) (hb : 0 < b) :
    2 * (roundDiv a b * b) ≤ 2 * a + b ∧ 2 * a ≤ 2 * (roundDiv a b * b) + b := by
  have hr := Nat.mod_lt a hb
  have hdm := Nat.div_add_mod' a b
  unfold roundDiv
  simp only
  split
  · rw [Nat.add_mul, Nat.one_mul]; omega
  · omega

theorem sub_le_of_bounds {k x y e : Nat} (h : k * x ≤ k * y + e ∧ k * y ≤ k * x + e) :
    k * (x - y) ≤ e ∧ k * (y - x) ≤ e := by
  rw [Nat.mul_sub, Nat.mul_sub]
  exact ⟨Nat.sub_le_iff_le_add'.2 h.1, Nat.sub_le_iff_le_add'.2 h.2⟩

/-- the condition under which `roundDiv` rounds up is monotone in the remainder -/
theorem roundUp_mono {q r r' b : Nat} (h : r ≤ r') (hup : 2 * r > b ∨ (2 * r = b ∧ q % 2 = 1)) :
    2 * r' > b ∨ (2 * r' = b ∧ q % 2 = 1) := by
  have h2 : 2 * r ≤ 2 * r' := Nat.mul_le_mul_left 2 h
  rcases hup with h1 | ⟨h1, hq⟩
  · exact Or.inl (Nat.lt_of_lt_of_le h1 h2)
  · rcases Nat.lt_or_eq_of_le h2 with h3 | h3
    · exact Or.inl (h1 ▸ h3)
    · exact Or.inr ⟨h3 ▸ h1, hq⟩

theorem roundDiv_mono (a a' b : Nat) (h : a ≤ a') : roundDiv a b ≤ roundDiv a' b := by
  rcases Nat.lt_or_eq_of_le (Nat.div_le_div_right (c := b) h) with hlt | heq
  · exact Nat.le_trans (roundDiv_le_succ a b) (Nat.le_trans hlt (div_le_roundDiv a' b))
  · -- same quotient, so the remainder has not decreased
    have hr : a % b ≤ a' % b := by
      rw [← Nat.div_add_mod' a b, ← Nat.div_add_mod' a' b, heq] at h
      exact Nat.le_of_add_le_add_left h
    unfold roundDiv
    simp only [heq]
    split
    · rw [if_pos (roundUp_mono hr ‹_›)]
    · split
      · exact Nat.le_succ _
      · exact Nat.le_refl _

theorem roundDiv_exact (q b : Nat) (hb : 0 < b) : roundDiv (q * b) b = q := by
  unfold roundDiv
  simp only [Nat.mul_div_cancel _ hb, Nat.mul_mod_left]
  rw [if_neg]
  omega

theorem roundDiv_zero (b : Nat) : roundDiv 0 b = 0 := by
  unfold roundDiv
  simp only [Nat.zero_div, Nat.zero_mod]
  rw [if_neg]
  omega

theorem roundDiv_le_of_le {a b q : Nat} (hb : 0 < b) (h : a ≤ q * b) : roundDiv a b ≤ q :=
  roundDiv_exact q b hb ▸ roundDiv_mono a _ b h

theorem le_roundDiv_of_le {a b q : Nat} (hb : 0 < b) (h : q * b ≤ a) : q ≤ roundDiv a b :=
  roundDiv_exact q b hb ▸ roundDiv_mono _ a b h

theorem roundDiv_scale (a b c : Nat) (hc : 0 < c) : roundDiv (a * c) (b * c) = roundDiv a b := by
  unfold roundDiv
  simp only [Nat.mul_div_mul_right _ _ hc, Nat.mul_mod_mul_right]
  have e1 : (2 * (a % b * c) > b * c) ↔ (2 * (a % b) > b) := by
    rw [← Nat.mul_assoc]
    exact Nat.mul_lt_mul_right hc
  have e2 : (2 * (a % b * c) = b * c) ↔ (2 * (a % b) = b) := by
    rw [← Nat.mul_assoc]
    exact Nat.mul_left_inj (Nat.pos_iff_ne_zero.1 hc)
  simp only [e1, e2]

/-! ## roundRat -/

theorem roundRat_zero (b : Nat) : roundRat 0 b = 0 := by
  unfold roundRat
  simp only [Nat.zero_div, roundDiv_zero, Nat.zero_mul]

/-- absolute error of `roundRat`: at most half a unit in the last place `2^sh` -/
theorem roundRat_err (a b : Nat) (hb : 0 < b) :
    2 * (roundRat a b * b) ≤ 2 * a + b * 2 ^ (bitLen (a / b) - 53) ∧
    2 * a ≤ 2 * (roundRat a b * b) + b * 2 ^ (bitLen (a / b) - 53) := by
  unfold roundRat
  simp only
  rw [Nat.mul_assoc, Nat.mul_comm (2 ^ _) b]
  exact roundDiv_bounds a _ (Nat.mul_pos hb (Nat.two_pow_pos _))

/-- relative error of `roundRat` on normal-range quotients: at most `2^-53`, since half a unit in the last place is
    `2^-53` of anything from `2^52` units on -/
theorem roundRat_rel_err (a b : Nat) (hb : 0 < b) (hbig : 2 ^ 53 ≤ a / b) :
    2 ^ 53 * (roundRat a b * b) ≤ 2 ^ 53 * a + a ∧ 2 ^ 53 * a ≤ 2 ^ 53 * (roundRat a b * b) + a := by
  have herr := roundRat_err a b hb
  have hu := shift_le a b ((lt_bitLen_iff _ _).2 hbig)
  omega

theorem roundRat_exact (m j b : Nat) (hb : 0 < b) (hm : m < 2 ^ 53) :
    roundRat (m * 2 ^ j * b) b = m * 2 ^ j := by
  -- the shift is at most `j`, so the quotient is a whole number of units
  have hsh : bitLen (m * 2 ^ j) - 53 ≤ j := by
    rw [Nat.sub_le_iff_le_add', bitLen_le_iff, Nat.pow_add]
    exact Nat.mul_lt_mul_of_pos_right hm (Nat.two_pow_pos j)
  unfold roundRat
  simp only [Nat.mul_div_cancel _ hb]
  generalize bitLen (m * 2 ^ j) - 53 = sh at hsh ⊢
  obtain ⟨d, rfl⟩ := Nat.exists_eq_add_of_le' hsh
  -- the numerator regrouped as `(m · 2^d) · (b · 2^sh)`
  rw [Nat.pow_add, ← Nat.mul_assoc, Nat.mul_assoc _ _ b, Nat.mul_comm _ b,
    roundDiv_exact _ _ (Nat.mul_pos hb (Nat.two_pow_pos sh)), Nat.mul_assoc]

theorem roundRat_exact_one (m j : Nat) (hm : m < 2 ^ 53) : roundRat (m * 2 ^ j) 1 = m * 2 ^ j := by
  have := roundRat_exact m j 1 (by decide) hm
  rwa [Nat.mul_one] at this

theorem roundRat_half_exact (m j : Nat) (hm : m < 2 ^ 53) : roundRat (m * 2 ^ (j + 1)) 2 = m * 2 ^ j := by
  have := roundRat_exact m j 2 (by decide) hm
  rwa [Nat.mul_assoc, ← Nat.pow_succ] at this

theorem roundRat_scale (a b c : Nat) (hc : 0 < c) : roundRat (a * c) (b * c) = roundRat a b := by
  unfold roundRat
  simp only [Nat.mul_div_mul_right _ _ hc]
  rw [Nat.mul_right_comm b c, roundDiv_scale _ _ _ hc]

/-- the significand `roundRat` computes never exceeds `2^53` (`2^53` itself: rounded up to the next binade) -/
theorem roundRat_sig_le (a b : Nat) : roundDiv a (b * 2 ^ (bitLen (a / b) - 53)) ≤ 2 ^ 53 := by
  have h := roundDiv_le_succ a (b * 2 ^ (bitLen (a / b) - 53))
  rw [← Nat.div_div_eq_div_mul] at h
  exact Nat.le_trans h ((Nat.div_lt_iff_lt_mul (Nat.two_pow_pos _)).2 (lt_shift (a / b)))

theorem roundRat_sig_ge (a b : Nat) (hb : 0 < b) (h : 53 < bitLen (a / b)) :
    2 ^ 52 ≤ roundDiv a (b * 2 ^ (bitLen (a / b) - 53)) :=
  le_roundDiv_of_le (Nat.mul_pos hb (Nat.two_pow_pos _)) (shift_le a b h)

theorem roundRat_mono (a a' b : Nat) (hb : 0 < b) (h : a ≤ a') : roundRat a b ≤ roundRat a' b := by
  have hsh : bitLen (a / b) - 53 ≤ bitLen (a' / b) - 53 :=
    Nat.sub_le_sub_right (bitLen_mono (Nat.div_le_div_right h)) 53
  rcases Nat.lt_or_eq_of_le hsh with hlt | heq
  · calc roundRat a b ≤ 2 ^ 53 * 2 ^ (bitLen (a / b) - 53) := Nat.mul_le_mul_right _ (roundRat_sig_le a b)
      _ = 2 ^ 52 * 2 ^ (bitLen (a / b) - 53 + 1) := by
        rw [← Nat.pow_add, ← Nat.pow_add, Nat.add_left_comm, Nat.add_comm]
      _ ≤ 2 ^ 52 * 2 ^ (bitLen (a' / b) - 53) := Nat.mul_le_mul_left _ (Nat.pow_le_pow_right (by decide) hlt)
      _ ≤ roundRat a' b := Nat.mul_le_mul_right _ (roundRat_sig_ge a' b hb (Nat.lt_of_sub_pos (Nat.zero_lt_of_lt hlt)))
  · unfold roundRat
    simp only [heq]
    exact Nat.mul_le_mul_right _ (roundDiv_mono a a' _ h)

theorem roundRat_isF64 (a b : Nat) : IsF64 (roundRat a b) := by
  rcases Nat.lt_or_eq_of_le (roundRat_sig_le a b) with hlt | heq
  · exact ⟨_, _, hlt, rfl⟩
  · refine ⟨1, 53 + (bitLen (a / b) - 53), by decide, ?_⟩
    unfold roundRat
    simp only
    rw [heq, Nat.one_mul, Nat.pow_add]

theorem roundRat_le_of_le {a b hi : Nat} (hb : 0 < b) (hhi : IsF64 hi) (h : a ≤ hi * b) : roundRat a b ≤ hi := by
  obtain ⟨m, j, hm, rfl⟩ := hhi
  exact roundRat_exact m j b hb hm ▸ roundRat_mono a _ b hb h

theorem le_roundRat_of_le {a b lo : Nat} (hb : 0 < b) (hlo : IsF64 lo) (h : lo * b ≤ a) : lo ≤ roundRat a b := by
  obtain ⟨m, j, hm, rfl⟩ := hlo
  exact roundRat_exact m j b hb hm ▸ roundRat_mono _ a b hb h

end Fl
end KT
