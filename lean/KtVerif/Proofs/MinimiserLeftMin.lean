import KtVerif.Model.Minimiser
/-!
# The leftmost minimum of the ring buffer

`minimiser.rs` keeps in `(m_active, buff_pos)` the least entry of `buff` and, since its rescan
compares with strict `<`, the leftmost position that holds it.  `IsLeftMin` is that relation; it is
followed through the rescan (`scanMin`) and through pop-front / push-back.
-/
namespace KT.Min
open KT

structure IsLeftMin (l : List Nat) (v i : Nat) : Prop where
  lt : i < l.length
  at_i : l[i]? = some v
  le : ∀ (j : Nat) (x : Nat), l[j]? = some x → v ≤ x
  left : ∀ (j : Nat) (x : Nat), j < i → l[j]? = some x → v < x

theorem IsLeftMin.unique {l : List Nat} {v i v' i' : Nat} (h : IsLeftMin l v i) (h' : IsLeftMin l v' i') :
    v = v' ∧ i = i' := by
  have hv : v = v' := Nat.le_antisymm (h.le i' v' h'.at_i) (h'.le i v h.at_i)
  subst hv
  refine ⟨rfl, ?_⟩
  rcases Nat.lt_trichotomy i i' with hlt | heq | hgt
  · exact absurd (h'.left i v hlt h.at_i) (Nat.lt_irrefl v)
  · exact heq
  · exact absurd (h.left i' v hgt h'.at_i) (Nat.lt_irrefl v)

theorem IsLeftMin.mem {l : List Nat} {v i : Nat} (h : IsLeftMin l v i) : v ∈ l :=
  List.mem_of_getElem? h.at_i

theorem IsLeftMin.le_of_mem {l : List Nat} {v i y : Nat} (h : IsLeftMin l v i) (hy : y ∈ l) :
    v ≤ y := by
  obtain ⟨k, hk⟩ := List.getElem?_of_mem hy
  exact h.le k y hk

theorem isLeftMin_snoc_lt {pre : List Nat} {x : Nat} (h : ∀ y ∈ pre, x < y) :
    IsLeftMin (pre ++ [x]) x pre.length := by
  refine ⟨?_, List.getElem?_concat_length, fun j y hj => ?_, fun j y hj hy => ?_⟩
  · rw [List.length_append]; exact Nat.lt_succ_self _
  · rcases List.mem_append.1 (List.mem_of_getElem? hj) with hm | hm
    · exact Nat.le_of_lt (h y hm)
    · exact Nat.le_of_eq (List.mem_singleton.1 hm).symm
  · rw [List.getElem?_append_left hj] at hy
    exact h y (List.mem_of_getElem? hy)

theorem IsLeftMin.snoc_ge {pre : List Nat} {v i x : Nat} (h : IsLeftMin pre v i) (hx : v ≤ x) :
    IsLeftMin (pre ++ [x]) v i := by
  refine ⟨?_, ?_, fun j y hj => ?_, fun j y hj hy => ?_⟩
  · rw [List.length_append]; exact Nat.lt_succ_of_lt h.lt
  · rw [List.getElem?_append_left h.lt]; exact h.at_i
  · rcases List.mem_append.1 (List.mem_of_getElem? hj) with hm | hm
    · exact h.le_of_mem hm
    · exact (List.mem_singleton.1 hm) ▸ hx
  · rw [List.getElem?_append_left (Nat.lt_trans hj h.lt)] at hy
    exact h.left j y hj hy

theorem IsLeftMin.tail {l : List Nat} {v i : Nat} (h : IsLeftMin l v i) (hi : 0 < i) :
    IsLeftMin l.tail v (i - 1) := by
  refine ⟨?_, ?_, fun j y hj => ?_, fun j y hj hy => ?_⟩
  · rw [List.length_tail]; exact Nat.sub_lt_sub_right hi h.lt
  · rw [List.getElem?_tail, Nat.sub_add_cancel hi]; exact h.at_i
  · rw [List.getElem?_tail] at hj; exact h.le (j + 1) y hj
  · rw [List.getElem?_tail] at hy; exact h.left (j + 1) y (Nat.add_lt_of_lt_sub hj) hy

theorem scanMin_spec (l : List Nat) : ∀ (pre : List Nat) (best bi : Nat), IsLeftMin pre best bi →
    IsLeftMin (pre ++ l) (scanMin best bi pre.length l).1 (scanMin best bi pre.length l).2 := by
  induction l with
  | nil => intro pre best bi h; rw [List.append_nil]; exact h
  | cons x xs ih =>
    intro pre best bi h
    have el : (pre ++ [x]).length = pre.length + 1 := List.length_append
    rw [scanMin, List.append_cons, ← el]
    split
    · next hx =>
      exact ih _ _ _ (isLeftMin_snoc_lt fun y hy => Nat.lt_of_lt_of_le hx (h.le_of_mem hy))
    · next hx => exact ih _ _ _ (h.snoc_ge (Nat.le_of_not_lt hx))

/-- the branch `else { buff_pos -= 1 }`: the minimum was not at the front and the pushed value is
    not smaller -/
theorem slide_keep {l : List Nat} {v i x : Nat} (h : IsLeftMin l v i) (hi : 0 < i) (hx : v ≤ x) :
    IsLeftMin (l.tail ++ [x]) v (i - 1) :=
  (h.tail hi).snoc_ge hx

/-- the branch `min_m_val < m_active` ("break the window"): the pushed value is the only minimum,
    at the back -/
theorem slide_new {l : List Nat} {v i x : Nat} (h : IsLeftMin l v i) (hx : x < v) :
    IsLeftMin (l.tail ++ [x]) x (l.length - 1) := by
  rw [← List.length_tail]
  exact isLeftMin_snoc_lt fun y hy =>
    Nat.lt_of_lt_of_le hx (h.le_of_mem (List.mem_of_mem_tail hy))

/-- `big` is `u64::MAX` in both scans of `next()` (`new_min`; `m_active` while no run is open); the
    codes in the buffer are below it -/
theorem scanMin_leftMin (l : List Nat) (big bi : Nat) (hl : l ≠ []) (hbig : ∀ x ∈ l, x < big) :
    IsLeftMin l (scanMin big bi 0 l).1 (scanMin big bi 0 l).2 := by
  cases l with
  | nil => exact absurd rfl hl
  | cons x xs =>
    -- the first entry is taken; from then on the loop holds a leftmost minimum
    rw [scanMin, if_pos (hbig x List.mem_cons_self)]
    exact scanMin_spec xs [x] x 0 (isLeftMin_snoc_lt (pre := []) fun y hy => absurd hy List.not_mem_nil)

theorem min?_eq_listMin {l : List Nat} (hl : l ≠ []) : l.min? = some (listMin l) := by
  cases l with
  | nil => exact absurd rfl hl
  | cons x xs => rfl

theorem listMin_le (l : List Nat) : ∀ y ∈ l, listMin l ≤ y := fun y hy =>
  (List.min?_eq_some_iff.1 (min?_eq_listMin (List.ne_nil_of_mem hy))).2 y hy

theorem listMin_mem (l : List Nat) (hl : l ≠ []) : listMin l ∈ l :=
  (List.min?_eq_some_iff.1 (min?_eq_listMin hl)).1

theorem IsLeftMin.listMin_eq {l : List Nat} {v i : Nat} (h : IsLeftMin l v i) : listMin l = v := by
  have hv : l.min? = some v := List.min?_eq_some_iff.2 ⟨h.mem, fun _ => h.le_of_mem⟩
  rw [min?_eq_listMin (List.ne_nil_of_mem h.mem)] at hv
  exact Option.some.inj hv

end KT.Min
