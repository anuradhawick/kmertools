import KtVerif.Model.Sched
/-!
# The minimiser outputs under any schedule: appended lines (s2m), keyed upserts (m2s)
-/
namespace KT.Sch
open KT

theorem s2m_fold (line : Nat → List Nat) (order : List Nat) (init : List (List Nat)) :
    order.foldl (fun a n => s2mEff line n a) init = init ++ order.map line := by
  induction order generalizing init with
  | nil => simp
  | cons n ns ih =>
    rw [List.foldl_cons, ih]
    simp only [s2mEff, List.map_cons, List.append_assoc, List.singleton_append]

/-! ## upsert: what it does to the keys, and to the list stored under each key -/

section
variable {κ ε : Type} [DecidableEq κ]

theorem mem_keys_upsert (k : κ) (e : ε) (m : List (κ × List ε)) (k' : κ) :
    k' ∈ (upsert k e m).map (·.1) ↔ k' ∈ m.map (·.1) ∨ k' = k := by
  induction m with
  | nil => simp [upsert]
  | cons x rest ih =>
    rw [upsert]
    split
    · next h => exact ⟨Or.inl, fun h' => h'.elim id fun e => List.mem_cons.2 (Or.inl (e.trans h.symm))⟩
    · rw [List.map_cons, List.mem_cons, ih, List.map_cons, List.mem_cons, or_assoc]

theorem nodup_keys_upsert (k : κ) (e : ε) (m : List (κ × List ε)) (h : (m.map (·.1)).Nodup) :
    ((upsert k e m).map (·.1)).Nodup := by
  induction m with
  | nil => exact List.nodup_cons.2 ⟨nofun, List.nodup_nil⟩
  | cons x rest ih =>
    rw [upsert]
    split
    · exact h
    · next hne =>
      rw [List.map_cons, List.nodup_cons] at h ⊢
      exact ⟨fun hm => ((mem_keys_upsert k e rest x.1).1 hm).elim h.1 hne, ih h.2⟩

def valsAt : List (κ × List ε) → κ → List ε
  | [], _ => []
  | (k', es) :: rest, k => if k' = k then es else valsAt rest k

theorem valsAt_upsert (k : κ) (e : ε) (m : List (κ × List ε)) (k' : κ) :
    valsAt (upsert k e m) k' = valsAt m k' ++ if k = k' then [e] else [] := by
  induction m with
  | nil => rfl
  | cons x rest ih =>
    rw [upsert]
    split
    · next h =>
      subst h
      simp only [valsAt]
      split <;> simp
    · next h =>
      simp only [valsAt, ih]
      split
      · next h' => rw [if_neg (fun e => h (h'.trans e.symm)), List.append_nil]
      · rfl

theorem valsAt_of_mem {m : List (κ × List ε)} {k : κ} {es : List ε} (hnd : (m.map (·.1)).Nodup)
    (h : (k, es) ∈ m) : valsAt m k = es := by
  induction m with
  | nil => cases h
  | cons x rest ih =>
    rw [List.map_cons, List.nodup_cons] at hnd
    rcases List.mem_cons.1 h with rfl | h
    · exact if_pos rfl
    · have hne : x.1 ≠ k := fun e => hnd.1 (e ▸ List.mem_map_of_mem (f := (·.1)) h)
      exact (if_neg hne).trans (ih hnd.2 h)

/-- the map `m` is exactly the grouping of the pair list `ps` by key -/
structure Grouped (m : List (κ × List ε)) (ps : List (κ × ε)) : Prop where
  nodup : (m.map (·.1)).Nodup
  keys : ∀ k, k ∈ m.map (·.1) ↔ k ∈ ps.map (·.1)
  vals : ∀ k, valsAt m k = (ps.filter (fun p => decide (p.1 = k))).map (·.2)

theorem Grouped.vals_of_mem {m : List (κ × List ε)} {ps : List (κ × ε)} (h : Grouped m ps)
    {k : κ} {es : List ε} (hin : (k, es) ∈ m) :
    es = (ps.filter (fun p => decide (p.1 = k))).map (·.2) :=
  (valsAt_of_mem h.nodup hin).symm.trans (h.vals k)

theorem grouped_upsert (m : List (κ × List ε)) (ps : List (κ × ε)) (k : κ) (e : ε)
    (h : Grouped m ps) : Grouped (upsert k e m) (ps ++ [(k, e)]) := by
  refine ⟨nodup_keys_upsert k e m h.nodup, fun k' => ?_, fun k' => ?_⟩
  · rw [mem_keys_upsert, h.keys k', List.map_append, List.mem_append, List.map_singleton,
      List.mem_singleton]
  · rw [valsAt_upsert, h.vals k', List.filter_append, List.map_append, List.filter_cons,
      List.filter_nil]
    congr 1
    simp only [decide_eq_true_eq]
    split <;> rfl

theorem grouped_foldl (qs : List (κ × ε)) (m : List (κ × List ε)) (ps : List (κ × ε))
    (h : Grouped m ps) : Grouped (qs.foldl (fun acc p => upsert p.1 p.2 acc) m) (ps ++ qs) := by
  induction qs generalizing m ps with
  | nil => rwa [List.append_nil]
  | cons q qs ih =>
    rw [← List.singleton_append, ← List.append_assoc]
    exact ih _ _ (grouped_upsert m ps q.1 q.2 h)

theorem m2s_fold (runs : Nat → List (κ × ε)) (order : List Nat) :
    Grouped (order.foldl (fun a n => m2sEff runs n a) []) (order.flatMap runs) := by
  have h := grouped_foldl (order.flatMap runs) [] [] ⟨List.nodup_nil, fun _ => Iff.rfl, fun _ => rfl⟩
  rwa [List.foldl_flatMap, List.nil_append] at h

end

end KT.Sch
