import KtVerif.Model.MinOut
import KtVerif.Props.C02
/-!
# Helpers for C10: the effective window, the single window spanning a record, run texts
-/
namespace KT.MO
open KT

theorem effW_zero_short (m : Nat) (seq : List Nat) (h : seq.length < m) : effW 0 m seq = m :=
  (if_pos rfl).trans (Nat.max_eq_right (Nat.le_of_lt h))

theorem winMins_full (m : Nat) (seq : List Nat) :
    winMins seq.length m seq = [winMin seq.length m seq 0] := by
  rw [winMins, Nat.add_sub_cancel_left]
  rfl

theorem runText_eq (m : Nat) (r : Run) :
    runText m r = decodeSpec m r.1 ++ [58] ++ natText r.2.1 ++ [45] ++ natText r.2.2 := by
  rw [runText, numericToKmer_eq_spec]

end KT.MO
