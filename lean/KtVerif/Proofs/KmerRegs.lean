import KtVerif.Proofs.KmerSpec
/-!
# The rolling register pair shared by the three iterators (C01, C09, C18); the k-mer generator

`KmerGenerator`, `MinimiserGenerator` and `KmerMinimiserGenerator` update a forward and a
reverse-complement register by the same two expressions.  `fwd_update` / `rev_update` turn them into
arithmetic; `regF k q` / `regR k q` are the register values after the clean bytes `q`, in closed
form, so that the values at emission (`regF_eq_enc`, `regR_eq_rcEnc`) need no induction.

The state of `KmerGenerator` after a prefix `p` is then a function of `p` (`stOf`): the registers have
seen the clean bytes of `p` (an ambiguous byte only resets the run length, the stale bits stay), the
length field is the trailing clean run capped at `k - 1`.
-/
namespace KT
open KT.Min

/-! ## the two update expressions as arithmetic -/

theorem maskOf_eq {k : Nat} (hk : k ≤ 31) : maskOf k = 2 ^ (2 * k) - 1 := by
  have h62 := pow_le_62 hk
  rw [four_pow] at h62
  unfold maskOf shl64
  rw [Nat.shiftLeft_eq, Nat.one_mul, Nat.mod_eq_of_lt (by unfold W64; omega)]

theorem fwd_update {k f v : Nat} (hk : k ≤ 31) (hf : f < 4 ^ k) (hv : v < 4) :
    (shl64 f 2 ||| v) &&& maskOf k = (f * 4 + v) % 4 ^ k := by
  rw [shl2_or hk hf hv, maskOf_eq hk, Nat.and_two_pow_sub_one_eq_mod, four_pow]

/-- a digit shifted to position `j ≤ 30` stays inside the word -/
theorem shl64_digit {c j : Nat} (hc : c < 4) (hj : j ≤ 30) : shl64 c (2 * j) = c <<< (2 * j) := by
  refine Nat.mod_eq_of_lt ?_
  rw [Nat.shiftLeft_eq, ← four_pow]
  calc c * 4 ^ j < 4 * 4 ^ j := Nat.mul_lt_mul_of_pos_right hc (four_pow_pos j)
    _ = 4 ^ (j + 1) := Nat.pow_succ'.symm
    _ ≤ 2 ^ 62 := pow_le_62 (Nat.succ_le_succ hj)
    _ < W64 := by decide

theorem rev_update {k x v : Nat} (hk1 : 1 ≤ k) (hk : k ≤ 31) (hx : x < 4 ^ k) (hv : v < 4) :
    (x >>> 2) ||| shl64 (v ^^^ 3) (shiftOf k) = x / 4 + (3 - v) * 4 ^ (k - 1) := by
  obtain ⟨j, rfl⟩ := Nat.exists_eq_add_one.2 hk1
  rw [Nat.pow_succ'] at hx
  have hx4 : x / 4 < 2 ^ (2 * j) := by rw [← four_pow]; exact Nat.div_lt_of_lt_mul hx
  rw [shiftOf, Nat.add_sub_cancel, xor3 hv, shl64_digit (Nat.sub_lt_succ 3 v) (Nat.le_of_succ_le_succ hk), shr2,
    Nat.or_comm, ← Nat.shiftLeft_add_eq_or_of_lt hx4, Nat.shiftLeft_eq, ← four_pow, Nat.add_comm]

/-! ## the registers after the clean bytes `q` -/

def regF (k : Nat) (q : List Nat) : Nat := enc q % 4 ^ k

/-- the top `k` digits of `rcEnc q`, left-aligned in `k` digits while `q` is shorter -/
def regR (k : Nat) (q : List Nat) : Nat := rcEnc q * 4 ^ k / 4 ^ q.length

theorem regF_nil (k : Nat) : regF k [] = 0 := Nat.zero_mod _

theorem regR_nil (k : Nat) : regR k [] = 0 := by
  simp [regR, rcEnc, encDigits]

theorem regF_lt (k : Nat) (q : List Nat) : regF k q < 4 ^ k := Nat.mod_lt _ (four_pow_pos k)

theorem regR_lt (k : Nat) (q : List Nat) : regR k q < 4 ^ k :=
  Nat.div_lt_of_lt_mul (Nat.mul_lt_mul_of_pos_right (rcEnc_lt q) (four_pow_pos k))

theorem regF_snoc (k : Nat) (q : List Nat) (b : Nat) :
    regF k (q ++ [b]) = (regF k q * 4 + nt4 b) % 4 ^ k := by
  rw [regF, regF, enc_concat, Nat.add_mod (enc q % 4 ^ k * 4), Nat.mod_mul_mod, ← Nat.add_mod]

theorem regR_snoc {k : Nat} (hk1 : 1 ≤ k) (q : List Nat) (b : Nat) :
    regR k (q ++ [b]) = regR k q / 4 + (3 - nt4 b) * 4 ^ (k - 1) := by
  -- `(c * 4^n + R) * 4^k / 4^(n+1)`: the new digit `c` lands exactly at position `k - 1`
  have h : compDigit (nt4 b) * 4 ^ k = (3 - nt4 b) * 4 ^ (k - 1) * 4 := by
    rw [four_pow_pred hk1, Nat.mul_assoc]; rfl
  rw [regR, regR, rcEnc_concat, List.length_append, List.length_singleton, Nat.pow_succ,
    ← Nat.div_div_eq_div_mul, Nat.add_mul, Nat.mul_right_comm, Nat.add_comm,
    Nat.add_mul_div_right _ _ (four_pow_pos _), h, Nat.add_mul_div_right _ _ (by decide)]

/-- one clean byte rolls both registers (any width: `fval`/`rval` at `k`, `mVal*` at `m`, `kVal*` at `w`) -/
theorem regs_roll {k : Nat} (hk1 : 1 ≤ k) (hk : k ≤ 31) (q : List Nat) {b : Nat} (hb : nt4 b < 4) :
    (shl64 (regF k q) 2 ||| nt4 b) &&& maskOf k = regF k (q ++ [b]) ∧
    (regR k q >>> 2) ||| shl64 (nt4 b ^^^ 3) (shiftOf k) = regR k (q ++ [b]) :=
  ⟨by rw [fwd_update hk (regF_lt k q) hb, regF_snoc],
   by rw [rev_update hk1 hk (regR_lt k q) hb, regR_snoc hk1]⟩

/-- the saturating run-length counters `len`, `mValL`, `kValL`: they hold `min c (k - 1)` after `c`
    clean bytes -/
theorem satCount {k : Nat} (hk : 1 ≤ k) (c : Nat) :
    (min c (k - 1) + 1 < k ↔ c + 1 < k) ∧ (min c (k - 1) + 1 = k ↔ k ≤ c + 1) ∧
    (c + 1 < k → min c (k - 1) + 1 = min (c + 1) (k - 1)) ∧
    (k ≤ c + 1 → min c (k - 1) + 1 - 1 = min (c + 1) (k - 1)) := by
  obtain ⟨j, rfl⟩ := Nat.exists_eq_add_one.2 hk
  simp only [Nat.add_sub_cancel, Nat.add_lt_add_iff_right, Nat.add_le_add_iff_right, Nat.add_right_cancel_iff]
  rcases Nat.lt_or_ge c j with h | h
  · simp [Nat.min_eq_left (Nat.le_of_lt h), Nat.min_eq_left h, h, Nat.ne_of_lt h, Nat.not_le.2 h]
  · simp [Nat.min_eq_right h, Nat.min_eq_right (Nat.le_succ_of_le h), h, Nat.not_lt.2 h]

theorem regF_eq_enc {k : Nat} {q : List Nat} (hq : k ≤ q.length) (hc : (lastN k q).all clean = true) :
    regF k q = enc (lastN k q) := by
  have hl := lastN_length_of_le hq
  have hlt := enc_lt hc
  have split := enc_append (q.take (q.length - k)) (lastN k q)
  rw [take_append_lastN, hl] at split  -- enc q = enc (the rest) * 4 ^ k + enc (lastN k q)
  rw [hl] at hlt
  rw [regF, split, Nat.mul_add_mod_self_right, Nat.mod_eq_of_lt hlt]

theorem regR_eq_rcEnc {k : Nat} {q : List Nat} (hq : k ≤ q.length) : regR k q = rcEnc (lastN k q) := by
  have hlen : q.length = (q.take (q.length - k)).length + k := by
    rw [List.length_take, Nat.min_eq_left (Nat.sub_le _ _), Nat.sub_add_cancel hq]
  have split := rcEnc_append (q.take (q.length - k)) (lastN k q)
  rw [take_append_lastN] at split  -- rcEnc q = rcEnc (lastN k q) * 4 ^ (q.length - k) + rcEnc (the rest)
  -- the factor `4 ^ k` cancels, and the rest, below `4 ^ (q.length - k)`, is divided away
  rw [regR, hlen, split, Nat.pow_add, Nat.mul_div_mul_right _ _ (four_pow_pos k), Nat.mul_comm,
    Nat.mul_add_div (four_pow_pos _), Nat.div_eq_of_lt (rcEnc_lt _), Nat.add_zero]

/-! ## the maximal clean suffix of the consumed prefix -/

def cleanSuffix (p : List Nat) : List Nat := (p.reverse.takeWhile clean).reverse

theorem cleanSuffix_nil : cleanSuffix [] = [] := rfl

theorem cleanSuffix_snoc_clean {b : Nat} (p : List Nat) (hb : clean b = true) :
    cleanSuffix (p ++ [b]) = cleanSuffix p ++ [b] := by
  simp [cleanSuffix, hb]

theorem cleanSuffix_snoc_amb {b : Nat} (p : List Nat) (hb : clean b = false) :
    cleanSuffix (p ++ [b]) = [] := by
  simp [cleanSuffix, hb]

theorem cleanSuffix_clean (p : List Nat) : ∀ b ∈ cleanSuffix p, clean b = true := by
  intro b hb
  simp only [cleanSuffix, List.mem_reverse] at hb
  have h := List.all_takeWhile (l := p.reverse) (p := clean)
  rw [List.all_eq_true] at h
  exact h b hb

theorem cleanSuffix_eq_lastN (p : List Nat) : cleanSuffix p = lastN (cleanSuffix p).length p := by
  have h := List.prefix_iff_eq_take.1 (List.takeWhile_prefix clean (l := p.reverse))
  rw [lastN, cleanSuffix, List.length_reverse]
  -- on the left only: the left side of `h` occurs in its right side
  conv => lhs; rw [h, List.reverse_take, List.reverse_reverse, List.length_reverse]

theorem cleanSuffix_length_le (p : List Nat) : (cleanSuffix p).length ≤ p.length := by
  rw [cleanSuffix_eq_lastN p]; exact lastN_length_le _ p

theorem le_cleanSuffix_length (a b : List Nat) (hb : ∀ x ∈ b, clean x = true) :
    b.length ≤ (cleanSuffix (a ++ b)).length := by
  simp only [cleanSuffix, List.reverse_append, List.length_reverse]
  rw [List.takeWhile_append_of_pos (by simpa using hb)]
  simp

theorem lastN_cleanSuffix {w : Nat} {p : List Nat} (h : w ≤ (cleanSuffix p).length) :
    lastN w (cleanSuffix p) = lastN w p := by
  rw [cleanSuffix_eq_lastN p]
  exact lastN_lastN p h

theorem lastN_clean_iff (w : Nat) (p : List Nat) :
    (w ≤ (lastN w p).length ∧ ∀ x ∈ lastN w p, clean x = true) ↔ w ≤ (cleanSuffix p).length := by
  constructor
  · intro ⟨hl, hc⟩
    have := le_cleanSuffix_length (p.take (p.length - w)) (lastN w p) hc
    rw [take_append_lastN] at this
    exact Nat.le_trans hl this
  · intro h
    refine ⟨?_, fun x hx => cleanSuffix_clean p x (mem_lastN (lastN_cleanSuffix h ▸ hx))⟩
    exact Nat.le_of_eq (lastN_length_of_le (Nat.le_trans h (cleanSuffix_length_le p))).symm

/-! ## the specification, one byte at a time -/

/-- what the byte that completes the prefix `p` contributes -/
def emitAt (k : Nat) (p : List Nat) : Option (Nat × Nat) :=
  if k ≤ (cleanSuffix p).length then some (itemOf (lastN k p)) else none

theorem specKmers_snoc {k : Nat} (hk1 : 1 ≤ k) (p : List Nat) (b : Nat) :
    specKmers k (p ++ [b]) = specKmers k p ++ (emitAt k (p ++ [b])).toList := by
  have hiff := lastN_clean_iff k (p ++ [b])
  rw [← List.all_eq_true] at hiff
  rw [specKmers_concat hk1, itemIf, emitAt]
  by_cases h : k ≤ (cleanSuffix (p ++ [b])).length
  · rw [if_pos (hiff.2 h), if_pos h]; rfl
  · rw [if_neg (mt hiff.1 h), if_neg h]; rfl

/-! ## the k-mer generator follows the specification byte by byte -/

def stOf (k : Nat) (p : List Nat) : KG :=
  ⟨regF k (p.filter clean), regR k (p.filter clean), min (cleanSuffix p).length (k - 1)⟩

theorem stOf_nil (k : Nat) : stOf k [] = KG.init := by
  simp only [stOf, List.filter_nil, regF_nil, regR_nil, cleanSuffix_nil, List.length_nil, Nat.zero_min]; rfl

/-- when the last `k` bytes are clean the registers hold their two codes, whatever came before -/
theorem regs_of_run {k : Nat} {p : List Nat} (h : k ≤ (cleanSuffix p).length) :
    (regF k (p.filter clean), regR k (p.filter clean)) = itemOf (lastN k p) := by
  obtain ⟨hl, hc⟩ := (lastN_clean_iff k p).2 h
  have hf : lastN k (p.filter clean) = lastN k p := by
    conv => lhs; rw [← take_append_lastN k p, List.filter_append, List.filter_eq_self.2 hc]
    rw [lastN_append_right _ _ hl, lastN_lastN p (Nat.le_refl k)]
  have hq : k ≤ (p.filter clean).length := Nat.le_trans (hf ▸ hl) (lastN_length_le _ _)
  rw [regF_eq_enc hq (hf ▸ List.all_eq_true.2 hc), regR_eq_rcEnc hq, hf]; rfl

theorem step_stOf {k : Nat} (hk1 : 1 ≤ k) (hk : k ≤ 31) (p : List Nat) (b : Nat) :
    KG.step k (stOf k p) b = (stOf k (p ++ [b]), emitAt k (p ++ [b])) := by
  obtain ⟨-, heq, hL1, hL2⟩ := satCount hk1 (cleanSuffix p).length
  unfold KG.step emitAt
  by_cases hv : nt4 b < 4
  · have hb : clean b = true := (clean_iff b).2 hv
    have hf : (p ++ [b]).filter clean = p.filter clean ++ [b] := by simp [List.filter_append, hb]
    obtain ⟨hF, hR⟩ := regs_roll hk1 hk (p.filter clean) hv
    have hcs : (cleanSuffix (p ++ [b])).length = (cleanSuffix p).length + 1 := by
      rw [cleanSuffix_snoc_clean p hb, List.length_append]; rfl
    simp only [stOf, hv, if_true, hF, hR, hcs, hf]
    by_cases hc : k ≤ (cleanSuffix p).length + 1
    · rw [if_pos (heq.2 hc), if_pos hc, hL2 hc, ← hf, regs_of_run (hcs ▸ hc)]
    · rw [if_neg (mt heq.1 hc), if_neg hc, hL1 (Nat.lt_of_not_le hc)]
  · have hb : clean b = false := (clean_false_iff b).2 hv
    have hf : (p ++ [b]).filter clean = p.filter clean := by simp [List.filter_append, hb]
    have h0 : ¬ (0 = k) := Nat.ne_of_lt hk1
    have hc : ¬ k ≤ 0 := Nat.not_le.2 hk1
    simp only [stOf, hv, if_false, hf, cleanSuffix_snoc_amb p hb, List.length_nil, h0, hc, Nat.zero_min]

theorem run_stOf {k : Nat} (hk1 : 1 ≤ k) (hk : k ≤ 31) (s : List Nat) :
    ∀ p, specKmers k p ++ KG.run k (stOf k p) s = specKmers k (p ++ s) := by
  induction s with
  | nil => intro p; rw [KG.run, List.append_nil, List.append_nil]
  | cons b s ih =>
    intro p
    rw [KG.run, step_stOf hk1 hk, List.append_cons p b s, ← ih (p ++ [b]), specKmers_snoc hk1]
    cases emitAt k (p ++ [b]) <;> simp

example : kmers 2 (List.replicate 4 65 ++ [67, 78, 71]) =
    List.replicate 3 (0, 15) ++ kmers 2 (List.replicate 1 65 ++ [67, 78, 71]) := by decide +kernel

end KT

namespace KT.Min

/-- the forward register of the minimiser iterators is updated by the same expression -/
theorem fwd_update {m f v : Nat} (hm : m ≤ 31) (hf : f < 4 ^ m) (hv : v < 4) :
    (shl64 f 2 ||| v) &&& maskOf m = (f * 4 + v) % 4 ^ m :=
  KT.fwd_update hm hf hv

theorem rcEnc_lt (q : List Nat) : rcEnc q < 4 ^ q.length := KT.rcEnc_lt q

end KT.Min
