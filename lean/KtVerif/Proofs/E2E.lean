import KtVerif.Spec.EndToEnd
import KtVerif.Proofs.FloatDiv
import KtVerif.Props.C03
import KtVerif.Props.C04
import KtVerif.Props.C05
import KtVerif.Props.C07
import KtVerif.Props.C08
import KtVerif.Props.C14
import KtVerif.Props.FloatLemmas
/-!
# End-to-end helpers: composition glue between the per-layer property theorems
-/
namespace KT.E2E
open KT

theorem oligoRowSpec_ne_nil (k : Nat) (s : List Nat) : oligoRowSpec k s ≠ [] :=
  List.ne_nil_of_length_pos
    (oligoRowSpec_length k s ▸ List.length_pos_of_mem (Canon.zero_mem_canonList k))

/-- a quotient that is at most 1 prints as `d.dddddd`; no bound on `total` is needed -/
theorem cell8 (counts : List Nat) (total : Nat) (hle : ∀ c ∈ counts, c ≤ total) :
    ∀ c ∈ counts, (fmt6 (f64Div (f64OfNat c) (f64OfNat (max 1 total)))).length = 8 := by
  intro c hc
  apply fmt6_length
  exact Fl.f64Div_le_one_any c (max 1 total) (Nat.le_trans (hle c hc) (Nat.le_max_right _ _)) (Nat.le_max_left _ _)

/-- `hu32`: the counts are `u32` in kmertools (`HashMap<u64, u32>`), which makes the f64 quotient exact -/
theorem covRowText_eq_spec (k binSize binCount : Nat) (cnt : Nat → Nat) (norm : Bool) (delim s : List Nat)
    (hk1 : 1 ≤ k) (hk : k ≤ 31) (hbs1 : 1 ≤ binSize) (hbs : binSize < 2 ^ 32) (hbc : 1 ≤ binCount)
    (hu32 : ∀ x, cnt x < 2 ^ 32) :
    covRowText k binSize binCount cnt norm delim s =
      rowText norm delim (covRowSpec k binSize binCount cnt s) (windowCount k s) := by
  unfold covRowText
  rw [covCounts_eq_spec_of_bin k binSize binCount cnt s hk1 hk hbc
    (fun x => covBinF64_eq_div (cnt x) binSize (hu32 x) hbs1 hbs)]

/-- `count_chunks_end_to_end` from any start, which is what its induction over the chunks needs -/
theorem chunks_from (N limit T : Nat) (hT : 0 < T) (kms : Nat → List Nat) (len : Nat → Nat)
    (start : Nat) (chunks : List CSys) (h : ChunkRuns N limit T kms len start chunks) (hle : start ≤ N) :
    (chunks.flatMap fun s => s.table).Perm ((chunks.flatMap fun s => s.taken).flatMap kms) ∧
    (chunks.flatMap fun s => s.taken) = List.range' start (N - start) := by
  induction h with
  | done => simp
  | step start sched s rest hlt hrun hterm _ ih =>
    obtain ⟨htk, hsn, hnN, hperm, _⟩ := chunk_any_schedule N limit T start kms len hT hle sched s hrun hterm
    obtain ⟨ihp, iht⟩ := ih hnN
    refine ⟨by simpa using hperm.append ihp, ?_⟩
    -- [start, next) ++ [next, N) = [start, N)
    rw [List.flatMap_cons, htk, iht, ← Nat.sub_add_sub_cancel hnN hsn, Nat.add_comm, ← List.range'_append_1,
      Nat.add_sub_cancel' hsn]

end KT.E2E
