import KtVerif.Spec.Vectors
import KtVerif.Model.Vectors
/-!
# Chaos game representation: the shape shared by all walks

`cgrLoop`, `cgrEndLoop` (binary64) and `cgrExactFrom` (specification) are the same recursion over the text with
different states and step functions.  `walk f st s` is that recursion in closed form: reject unless every byte is a
nucleotide letter, otherwise list the states `trail f st (s.map corner)` passed through.  Rejection, length, prefixes, last
point and invariants are proved once for `walk`; `cgrLoop_eq_walk`, `cgrExactFrom_eq_walk` and `cgrEndLoop_eq_walk` carry
them to the three definitions.
-/
namespace KT.Fl
open KT

/-! ## corners -/

/-- the corner of a base, `(0, 0)` for other bytes -/
def corner (b : Nat) : Nat × Nat := (cornerSpec b).getD (0, 0)

/-- model and specification have the same table, its keys are the nucleotide letters, its entries are 0 and 1.  One case
    split serves all four: the ten letters of `cgr_maps` by evaluation; any other byte fails every comparison in the three
    definitions -/
theorem corner_facts (b : Nat) : cgrCorner b = cornerSpec b ∧ (cornerSpec b).isSome = isNucLetter b ∧
    (corner b).1 ≤ 1 ∧ (corner b).2 ≤ 1 := by
  by_cases h : b ∈ [65, 97, 67, 99, 71, 103, 84, 116, 85, 117]
  · revert b
    decide
  · simp only [List.mem_cons, List.not_mem_nil, or_false, not_or] at h
    simp [cgrCorner, cornerSpec, isNucLetter, corner, h]

theorem cgrCorner_eq_spec (b : Nat) : cgrCorner b = cornerSpec b := (corner_facts b).1

theorem cornerSpec_isSome (b : Nat) : (cornerSpec b).isSome = isNucLetter b := (corner_facts b).2.1

theorem corner_le_one (b : Nat) : (corner b).1 ≤ 1 ∧ (corner b).2 ≤ 1 := (corner_facts b).2.2

theorem corners_le_one (s : List Nat) : ∀ c ∈ s.map corner, c.1 ≤ 1 ∧ c.2 ≤ 1 := fun c hc => by
  obtain ⟨b, _, rfl⟩ := List.mem_map.1 hc
  exact corner_le_one b

/-! ## the states a fold passes through -/

/-- the state after each element of `cs` -/
def trail {σ α : Type} (f : σ → α → σ) : σ → List α → List σ
  | _, [] => []
  | st, c :: cs => f st c :: trail f (f st c) cs

section trail
variable {σ α : Type} (f : σ → α → σ)

theorem length_trail (cs : List α) : ∀ st, (trail f st cs).length = cs.length := by
  induction cs with
  | nil => intro st; rfl
  | cons c cs ih => intro st; simp only [trail, List.length_cons, ih]

theorem trail_append (a b : List α) : ∀ st, trail f st (a ++ b) = trail f st a ++ trail f (a.foldl f st) b := by
  induction a with
  | nil => intro st; rfl
  | cons c a ih => intro st; simp only [List.cons_append, trail, ih, List.foldl_cons]

theorem getLastD_trail (cs : List α) : ∀ st, (trail f st cs).getLastD st = cs.foldl f st := by
  induction cs with
  | nil => intro st; rfl
  | cons c cs ih => intro st; simp only [trail, List.getLastD_cons, ih, List.foldl_cons]

theorem trail_forall {I : σ → Prop} (cs : List α) (hstep : ∀ st, ∀ c ∈ cs, I st → I (f st c)) :
    ∀ st, I st → ∀ p ∈ trail f st cs, I p := by
  induction cs with
  | nil => intro st _ p hp; cases hp
  | cons c cs ih =>
    intro st h0 p hp
    have h1 := hstep st c List.mem_cons_self h0
    rcases List.mem_cons.1 hp with rfl | hp
    · exact h1
    · exact ih (fun st d hd => hstep st d (List.mem_cons_of_mem _ hd)) _ h1 p hp

end trail

/-! ## the walk -/

/-- run `f` over the corners of the text and list the states; `none` if some byte is not a nucleotide letter -/
def walk {σ : Type} (f : σ → Nat × Nat → σ) (st : σ) (s : List Nat) : Option (List σ) :=
  if s.all isNucLetter then some (trail f st (s.map corner)) else none

section walk
variable {σ : Type} (f : σ → Nat × Nat → σ)

theorem walk_nil (st : σ) : walk f st [] = some [] := rfl

theorem walk_cons (st : σ) (b : Nat) (bs : List Nat) :
    walk f st (b :: bs) =
      match cornerSpec b with
      | none => none
      | some c =>
        match walk f (f st c) bs with
        | none => none
        | some rest => some (f st c :: rest) := by
  unfold walk
  rw [List.all_cons, ← cornerSpec_isSome, List.map_cons, corner]
  cases cornerSpec b with
  | none => rfl
  | some c => simp only [Option.isSome_some, Bool.true_and, Option.getD_some]; split <;> rfl

theorem walk_eq_none_iff (st : σ) (s : List Nat) : walk f st s = none ↔ ∃ b ∈ s, isNucLetter b = false := by
  simp [walk]

theorem walk_eq_some {st : σ} {s : List Nat} {l : List σ} (h : walk f st s = some l) : l = trail f st (s.map corner) := by
  unfold walk at h
  split at h
  · exact (Option.some.inj h).symm
  · cases h

theorem walk_length {st : σ} {s : List Nat} {l : List σ} (h : walk f st s = some l) : l.length = s.length := by
  rw [walk_eq_some f h, length_trail, List.length_map]

theorem walk_prefix {st : σ} {s t : List Nat} {l : List σ} (h : walk f st (s ++ t) = some l) :
    walk f st s = some (l.take s.length) := by
  have hl := walk_eq_some f h
  unfold walk at h ⊢
  split at h
  · rename_i hall
    rw [List.all_append, Bool.and_eq_true] at hall
    rw [List.map_append, trail_append] at hl
    rw [if_pos hall.1, hl, List.take_left' (by rw [length_trail, List.length_map])]
  · cases h

theorem walk_last {st : σ} {s : List Nat} {l : List σ} (h : walk f st s = some l) (hs : s ≠ []) (d : σ) :
    l.getLastD d = (s.map corner).foldl f st := by
  rw [walk_eq_some f h]
  cases s with
  | nil => exact absurd rfl hs
  | cons b bs => rw [List.map_cons, trail, List.getLastD_cons, getLastD_trail, List.foldl_cons]

theorem walk_forall {I : σ → Prop} (hstep : ∀ st c, c.1 ≤ 1 → c.2 ≤ 1 → I st → I (f st c)) {st : σ} (h0 : I st)
    {s : List Nat} {l : List σ} (h : walk f st s = some l) : ∀ p ∈ l, I p := by
  rw [walk_eq_some f h]
  refine trail_forall f _ (fun st c hc => ?_) st h0
  obtain ⟨b, _, rfl⟩ := List.mem_map.1 hc
  exact hstep st _ (corner_le_one b).1 (corner_le_one b).2

theorem walk_fold_invariant {I : σ → Prop} (hstep : ∀ st c, c.1 ≤ 1 → c.2 ≤ 1 → I st → I (f st c)) {st : σ} (h0 : I st)
    (s : List Nat) : I ((s.map corner).foldl f st) := by
  induction s generalizing st with
  | nil => exact h0
  | cons b bs ih => exact ih (hstep st _ (corner_le_one b).1 (corner_le_one b).2 h0)

/-- the last point of a walk over `p ++ q` is the walk over `q` from a state that satisfies what the steps preserve -/
theorem walk_last_append {I : σ → Prop} (hstep : ∀ st c, c.1 ≤ 1 → c.2 ≤ 1 → I st → I (f st c)) {st : σ} (h0 : I st)
    {p q : List Nat} {l : List σ} (h : walk f st (p ++ q) = some l) (hq : q ≠ []) (d : σ) :
    ∃ st', I st' ∧ l.getLastD d = (q.map corner).foldl f st' := by
  have hl := walk_last f h (fun e => hq (List.append_eq_nil_iff.1 e).2) d
  rw [List.map_append, List.foldl_append] at hl
  exact ⟨_, walk_fold_invariant f hstep h0 p, hl⟩

end walk

/-! ## the three definitions are walks -/

/-- step of the exact walk on `(X, Y, e)`, the point `(X / 2^e, Y / 2^e)` -/
def stepE (S : Nat) (st : Nat × Nat × Nat) (c : Nat × Nat) : Nat × Nat × Nat :=
  (c.1 * S * 2 ^ st.2.2 + st.1, c.2 * S * 2 ^ st.2.2 + st.2.1, st.2.2 + 1)

/-- step of `cgrLoop` and `cgrEndLoop` -/
def stepF (S : Nat) (p : Nat × Nat) (c : Nat × Nat) : Nat × Nat :=
  (cgrMid (c.1 * f64OfNat S) p.1, cgrMid (c.2 * f64OfNat S) p.2)

theorem cgrExactFrom_eq_walk (S : Nat) (s : List Nat) : ∀ (i X Y : Nat),
    cgrExactFrom S i (X, Y) s = walk (stepE S) (X, Y, i + 1) s := by
  induction s with
  | nil => intro i X Y; rw [cgrExactFrom, walk_nil]
  | cons b bs ih =>
    intro i X Y
    rw [cgrExactFrom, walk_cons]
    cases cornerSpec b with
    | none => rfl
    | some c =>
      simp only [stepE, ← ih]
      generalize cgrExactFrom S (i + 1) _ bs = o
      cases o <;> rfl

theorem cgrLoop_eq_walk (S : Nat) (s : List Nat) : ∀ (P : Nat × Nat), cgrLoop S P s = walk (stepF S) P s := by
  induction s with
  | nil => intro P; rw [cgrLoop, walk_nil]
  | cons b bs ih =>
    intro P
    rw [cgrLoop, cgrCorner_eq_spec, walk_cons]
    cases cornerSpec b with
    | none => rfl
    | some c =>
      simp only [stepF, ← ih]
      generalize cgrLoop S _ bs = o
      cases o <;> rfl

theorem cgrEndLoop_eq_walk (S : Nat) (s : List Nat) : ∀ (P : Nat × Nat),
    cgrEndLoop S P s = (walk (stepF S) P s).map fun l => l.getLastD P := by
  induction s with
  | nil => intro P; rw [cgrEndLoop, walk_nil]; rfl
  | cons b bs ih =>
    intro P
    rw [cgrEndLoop, cgrCorner_eq_spec, walk_cons]
    cases cornerSpec b with
    | none => rfl
    | some c =>
      simp only [ih, stepF]
      cases walk (stepF S) (cgrMid (c.1 * f64OfNat S) P.1, cgrMid (c.2 * f64OfNat S) P.2) bs with
      | none => simp only [Option.map_none]
      | some rest => simp only [Option.map_some, List.getLastD_cons]

theorem cgrExact_eq_walk (S : Nat) (s : List Nat) : cgrExact S s = walk (stepE S) (S, S, 1) s :=
  cgrExactFrom_eq_walk S s 0 S S

theorem cgrF64_eq_walk (S : Nat) (s : List Nat) : cgrF64 S s = walk (stepF S) (cgrCentre S) s :=
  cgrLoop_eq_walk S s _

end KT.Fl
