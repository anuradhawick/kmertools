import KtVerif.Proofs.Float
import KtVerif.Model.Vectors
/-!
# The scale `f64One`, conversions and quotients of naturals in the binary64 emulation: `f64OfNat`, `f64Div`, `fmt6`, `covBinF64`

For `c, t < 2^53` the conversions are exact and the scale cancels: `f64Div (f64OfNat c) (f64OfNat t) = roundRat (c · 2^1074) t`
(`f64Div_nat_eq`); everything about such quotients is read off `roundRat`'s interface from there.
-/
namespace KT.Fl
open KT

theorem f64One_eq : f64One = 2 ^ 1074 := by unfold f64One; exact Eq.refl _

theorem f64One_pos : 0 < f64One := by rw [f64One_eq]; exact Nat.two_pow_pos 1074

theorem two_pow_split (a b c : Nat) (h : a + b = c) : 2 ^ a * 2 ^ b = 2 ^ c := by
  subst h; exact (Nat.pow_add 2 a b).symm

theorem two_pow_le (a b : Nat) (h : a ≤ b) : 2 ^ a ≤ 2 ^ b := Nat.pow_le_pow_right (by decide) h

-- From here on `f64One` is opened only through `f64One_eq`, and large powers of two are compared and combined by the two
-- lemmas about variables above: a unifier that gets at `2 ^ 1074` or `2 ^ 1021` tries to evaluate it and runs into the
-- recursion limit.
attribute [local irreducible] f64One

theorem isF64_mul_f64One {x : Nat} (hx : x < 2 ^ 53) : IsF64 (x * f64One) := ⟨x, 1074, hx, by rw [f64One_eq]⟩

theorem f64OfNat_exact (x : Nat) (hx : x < 2 ^ 53) : f64OfNat x = x * f64One := by
  unfold f64OfNat
  rw [f64One_eq]
  exact roundRat_exact_one x 1074 hx

theorem f64OfNat_mono (c t : Nat) (h : c ≤ t) : f64OfNat c ≤ f64OfNat t :=
  roundRat_mono _ _ 1 (by decide) (Nat.mul_le_mul_right _ h)

theorem f64OfNat_pos (t : Nat) (ht : 1 ≤ t) : 0 < f64OfNat t := by
  have := f64OfNat_mono 1 t ht
  rw [f64OfNat_exact 1 (by decide), Nat.one_mul] at this
  exact Nat.lt_of_lt_of_le f64One_pos this

/-! ## quotients -/

theorem f64Div_le_one_any (c t : Nat) (hct : c ≤ t) (ht : 1 ≤ t) :
    f64Div (f64OfNat c) (f64OfNat t) ≤ f64One :=
  roundRat_le_of_le (f64OfNat_pos t ht) ⟨1, 1074, by decide, by rw [f64One_eq, Nat.one_mul]⟩
    (by rw [Nat.mul_comm f64One]; exact Nat.mul_le_mul_right _ (f64OfNat_mono c t hct))

theorem f64Div_nat_eq (c t : Nat) (hc53 : c < 2 ^ 53) (ht53 : t < 2 ^ 53) :
    f64Div (f64OfNat c) (f64OfNat t) = roundRat (c * f64One) t := by
  rw [f64OfNat_exact c hc53, f64OfNat_exact t ht53]
  exact roundRat_scale _ _ _ f64One_pos

/-- for `t < 2^53` the exact quotient `c / t` is at least `2^-1021`: in the normal range, where `roundRat_rel_err` applies -/
theorem quot_big (c t : Nat) (hc : 1 ≤ c) (ht : 1 ≤ t) (ht53 : t < 2 ^ 53) : 2 ^ 53 ≤ c * f64One / t := by
  rw [Nat.le_div_iff_mul_le ht]
  calc 2 ^ 53 * t ≤ 2 ^ 53 * 2 ^ 1021 :=
        Nat.mul_le_mul_left _ (Nat.le_trans (Nat.le_of_lt ht53) (two_pow_le 53 1021 (by decide)))
    _ = f64One := by rw [f64One_eq]; exact two_pow_split 53 1021 1074 (by decide)
    _ ≤ c * f64One := Nat.le_mul_of_pos_left _ hc

/-- relative error at most `2^-53`, in additive form -/
theorem f64Div_nat_bounds (c t : Nat) (ht : 1 ≤ t) (hc53 : c < 2 ^ 53) (ht53 : t < 2 ^ 53) :
    2 ^ 53 * (f64Div (f64OfNat c) (f64OfNat t) * t) ≤ 2 ^ 53 * (c * f64One) + c * f64One ∧
    2 ^ 53 * (c * f64One) ≤ 2 ^ 53 * (f64Div (f64OfNat c) (f64OfNat t) * t) + c * f64One := by
  rw [f64Div_nat_eq c t hc53 ht53]
  rcases Nat.eq_zero_or_pos c with rfl | hc
  · simp only [Nat.zero_mul, roundRat_zero, Nat.mul_zero, Nat.le_refl, and_self]
  · exact roundRat_rel_err _ _ ht (quot_big c t hc ht ht53)

theorem f64Div_nat_err (c t : Nat) (hc : 1 ≤ c) (ht : 1 ≤ t) (hc53 : c < 2 ^ 53) (ht53 : t < 2 ^ 53) :
    let q := f64Div (f64OfNat c) (f64OfNat t)
    2 ^ 53 * (q * t - c * f64One) ≤ c * f64One ∧ 2 ^ 53 * (c * f64One - q * t) ≤ c * f64One := by
  have _ := hc
  exact sub_le_of_bounds (f64Div_nat_bounds c t ht hc53 ht53)

theorem f64Div_mul_exact (q t : Nat) (hq : q < 2 ^ 53) (ht : 1 ≤ t) (ht53 : t < 2 ^ 53) (hqt : q * t < 2 ^ 53) :
    f64Div (f64OfNat (q * t)) (f64OfNat t) = q * f64One := by
  rw [f64Div_nat_eq (q * t) t hqt ht53, Nat.mul_right_comm, f64One_eq]
  exact roundRat_exact q 1074 t ht hq

/-! ## `{:.6}` formatting -/

theorem fmt6Int_le (n : Nat) (hn : n ≤ f64One) : fmt6Int n ≤ 1000000 :=
  roundDiv_le_of_le f64One_pos (by rw [Nat.mul_comm]; exact Nat.mul_le_mul_left _ hn)

/-- rounding twice.  `v` is `c·F/t` to within a relative `1/K`, `N` is `v·M/F` to within half a unit; then `N` is `c·M/t` to
    within one unit, provided `c/t ≤ 1` and `2M ≤ K`.  (Multiply the goal by `2KF` and chain the two hypotheses.) -/
theorem round_twice (K M F c t v N : Nat) (hF : 0 < F) (hK : 0 < K) (hMK : 2 * M ≤ K) (hct : c ≤ t)
    (hv : K * (v * t) ≤ K * (c * F) + c * F ∧ K * (c * F) ≤ K * (v * t) + c * F)
    (hN : 2 * (N * F) ≤ 2 * (v * M) + F ∧ 2 * (v * M) ≤ 2 * (N * F) + F) :
    N * t ≤ c * M + t ∧ c * M ≤ N * t + t := by
  have h1 : 2 * M * c * F ≤ K * t * F := Nat.mul_le_mul_right F (Nat.mul_le_mul hMK hct)
  have hpos : 0 < 2 * K * F := Nat.mul_pos (Nat.mul_pos (by decide) hK) hF
  constructor
  · apply Nat.le_of_mul_le_mul_left _ hpos
    calc 2 * K * F * (N * t) = K * t * (2 * (N * F)) := by ring
      _ ≤ K * t * (2 * (v * M) + F) := Nat.mul_le_mul_left _ hN.1
      _ = 2 * M * (K * (v * t)) + K * t * F := by ring
      _ ≤ 2 * M * (K * (c * F) + c * F) + K * t * F := Nat.add_le_add_right (Nat.mul_le_mul_left _ hv.1) _
      _ = 2 * K * F * (c * M) + 2 * M * c * F + K * t * F := by ring
      _ ≤ 2 * K * F * (c * M) + K * t * F + K * t * F := Nat.add_le_add_right (Nat.add_le_add_left h1 _) _
      _ = 2 * K * F * (c * M + t) := by ring
  · apply Nat.le_of_mul_le_mul_left _ hpos
    calc 2 * K * F * (c * M) = 2 * M * (K * (c * F)) := by ring
      _ ≤ 2 * M * (K * (v * t) + c * F) := Nat.mul_le_mul_left _ hv.2
      _ = K * t * (2 * (v * M)) + 2 * M * c * F := by ring
      _ ≤ K * t * (2 * (N * F) + F) + K * t * F := Nat.add_le_add (Nat.mul_le_mul_left _ hN.2) h1
      _ = 2 * K * F * (N * t + t) := by ring

theorem fmt6_quotient_correct (c t : Nat) (hct : c ≤ t) (ht : 1 ≤ t) (ht53 : t < 2 ^ 53) :
    let N := fmt6Int (f64Div (f64OfNat c) (f64OfNat t))
    N * t ≤ c * 1000000 + t ∧ c * 1000000 ≤ N * t + t :=
  round_twice (2 ^ 53) 1000000 f64One c t _ _ f64One_pos (by decide) (by decide) hct
    (f64Div_nat_bounds c t ht (by omega) ht53) (roundDiv_bounds _ _ f64One_pos)

theorem padDigits_length (w n : Nat) (hw : 0 < w) (hn : n < 10 ^ w) : (padDigits w n).length = w := by
  unfold padDigits
  have h := (Nat.length_toDigits_le_iff (b := 10) (n := n) (k := w) (by decide) hw).2 hn
  simp only [List.length_append, List.length_replicate, List.length_map]
  omega

theorem fmt6_length (n : Nat) (hn : n ≤ f64One) : (fmt6 n).length = 8 := by
  have hle : roundDiv (n * 1000000) f64One ≤ 1000000 := fmt6Int_le n hn
  unfold fmt6
  simp only
  generalize roundDiv (n * 1000000) f64One = q at *
  have h1 : q / 1000000 < 10 := by omega
  have h2 : q % 1000000 < 10 ^ 6 := Nat.mod_lt _ (by decide)
  simp only [List.length_append, List.length_map, List.length_cons, List.length_nil,
    Nat.toDigits_of_lt_base h1, padDigits_length 6 _ (by decide) h2]

/-! ## coverage bin: float floor-division = integer division -/

theorem covBinF64_eq_div_of_lt (c b : Nat) (hc53 : c < 2 ^ 53) (hb1 : 1 ≤ b) (hb53 : b < 2 ^ 53) :
    covBinF64 c b = c / b := by
  have hup := (f64Div_nat_bounds c b hb1 hc53 hb53).1
  unfold covBinF64 f64Floor
  rw [f64Div_nat_eq c b hc53 hb53] at hup ⊢
  apply Nat.div_eq_of_lt_le
  · -- `(c / b)·1.0` is a double under the exact quotient, so rounding cannot go under it
    exact le_roundRat_of_le hb1 (isF64_mul_f64One (Nat.lt_of_le_of_lt (Nat.div_le_self c b) hc53))
      (by rw [Nat.mul_right_comm]; exact Nat.mul_le_mul_right _ (Nat.div_mul_le_self c b))
  · -- the relative error `2^-53` of `c/b` is less than `1/b`, the distance to the next multiple of `1/b`
    apply Nat.lt_of_mul_lt_mul_right (a := b)
    have h1 : c * f64One < 2 ^ 53 * f64One := Nat.mul_lt_mul_of_pos_right hc53 f64One_pos
    have h2 : (c + 1) * f64One ≤ b * (c / b + 1) * f64One := Nat.mul_le_mul_right _ (Nat.lt_mul_div_succ c hb1)
    -- bring `h2` to the atom `(c / b + 1) * f64One * b` of the goal
    rw [Nat.mul_comm b, Nat.mul_right_comm, Nat.succ_mul c] at h2
    generalize roundRat (c * f64One) b * b = vb at *
    omega

theorem f64Div_lt_one_of_big (c b : Nat) (hc : c < 2 ^ 53) (hb : 2 ^ 53 ≤ b) :
    f64Div (f64OfNat c) (f64OfNat b) < f64One := by
  -- `x as f64` is monotone, so `b as f64 ≥ 2^53` whatever `b` rounds to, and the exact quotient is at most the double `c · 2^-53`
  have hy : 2 ^ 53 * f64One ≤ f64OfNat b :=
    le_roundRat_of_le (by decide)
      ⟨1, 1127, by decide, by rw [f64One_eq, Nat.one_mul, two_pow_split 53 1074 1127 (by decide)]⟩
      (by rw [Nat.mul_one]; exact Nat.mul_le_mul_right _ hb)
  rw [f64OfNat_exact c hc]
  generalize f64OfNat b = y at hy ⊢
  have hsplit : 2 ^ 53 * 2 ^ 1021 = f64One := by rw [f64One_eq]; exact two_pow_split 53 1021 1074 (by decide)
  have hc' : IsF64 (c * 2 ^ 1021) := ⟨c, 1021, hc, rfl⟩
  have hGpos : 0 < (2 : Nat) ^ 1021 := Nat.two_pow_pos _
  -- `ring` below would evaluate the numeral `2 ^ 1021`
  generalize (2 : Nat) ^ 1021 = G at hc' hsplit hGpos
  have hypos : 0 < y := Nat.lt_of_lt_of_le (Nat.mul_pos (by decide) f64One_pos) hy
  calc f64Div (c * f64One) y ≤ c * G := roundRat_le_of_le hypos hc' (by
        calc c * f64One * f64One = c * G * (2 ^ 53 * f64One) := by rw [← hsplit]; ring
          _ ≤ c * G * y := Nat.mul_le_mul_left _ hy)
    _ < 2 ^ 53 * G := Nat.mul_lt_mul_of_pos_right hc hGpos
    _ = f64One := hsplit

/-- `(count as f64 / bin_size as f64).floor()` is `count / bin_size` for every count below `2^53` and every bin size -/
theorem covBinF64_eq_div_any (c b : Nat) (hc : c < 2 ^ 53) (hb1 : 1 ≤ b) : covBinF64 c b = c / b := by
  rcases Nat.lt_or_ge b (2 ^ 53) with hlt | hge
  · exact covBinF64_eq_div_of_lt c b hc hb1 hlt
  · rw [Nat.div_eq_of_lt (Nat.lt_of_lt_of_le hc hge)]
    exact Nat.div_eq_of_lt (f64Div_lt_one_of_big c b hc hge)

theorem two_pow_32_lt_53 {x : Nat} (h : x < 2 ^ 32) : x < 2 ^ 53 :=
  Nat.lt_of_lt_of_le h (Nat.pow_le_pow_right (by decide) (by decide))

theorem covBinF64_eq_div (c b : Nat) (hc : c < 2 ^ 32) (hb1 : 1 ≤ b) (hb : b < 2 ^ 32) :
    covBinF64 c b = c / b := by
  have _ := hb
  exact covBinF64_eq_div_any c b (two_pow_32_lt_53 hc) hb1

theorem covBinF64_eq_div_u64 (c b : Nat) (hc : c < 2 ^ 32) (hb1 : 1 ≤ b) (hb : b < 2 ^ 64) : covBinF64 c b = c / b := by
  have _ := hb
  exact covBinF64_eq_div_any c b (two_pow_32_lt_53 hc) hb1

end KT.Fl
