import KtVerif.Model.Kmer
/-!
# Base-4 digit lists and codes (C01, C02, C03, C09)

`encDigits` / `digitsOf k` is the bijection between lists of `k` digits `< 4` and codes `< 4 ^ k`.
Reverse complement is `rcDigits` on the list side; everything about `rcEnc`, `revCompSpec` (and
`Canon.rc`) is that list fact carried through the bijection.  The model's loops on codes (`revComp`,
`numericToKmer`) pop one digit per turn and are compared with the digit recursions directly.
-/
namespace KT

/-! ## powers -/

theorem four_pow (k : Nat) : 4 ^ k = 2 ^ (2 * k) := by
  rw [Nat.pow_mul]

theorem pow_le_62 {k : Nat} (hk : k ≤ 31) : 4 ^ k ≤ 2 ^ 62 := by
  rw [four_pow]; exact Nat.pow_le_pow_right (by decide) (Nat.mul_le_mul_left 2 hk)

theorem four_pow_pos (k : Nat) : 0 < 4 ^ k := Nat.pow_pos (by omega)

theorem pow_lt_U64MAX {m : Nat} (hm : m ≤ 31) : 4 ^ m < U64MAX :=
  Nat.lt_of_le_of_lt (pow_le_62 hm) (by decide)

/-- a `p`-digit high part and a `q`-digit low part make a `p + q`-digit code -/
theorem concat_lt {p q a b : Nat} (ha : a < 4 ^ p) (hb : b < 4 ^ q) : a * 4 ^ q + b < 4 ^ (p + q) :=
  calc a * 4 ^ q + b < a * 4 ^ q + 4 ^ q := Nat.add_lt_add_left hb _
    _ = (a + 1) * 4 ^ q := (Nat.succ_mul _ _).symm
    _ ≤ 4 ^ p * 4 ^ q := Nat.mul_le_mul_right _ ha
    _ = 4 ^ (p + q) := (Nat.pow_add _ _ _).symm

theorem push_lt {p a d : Nat} (ha : a < 4 ^ p) (hd : d < 4) : a * 4 + d < 4 ^ (p + 1) :=
  concat_lt (q := 1) ha hd

theorem four_pow_pred {k : Nat} (hk1 : 1 ≤ k) : 4 ^ k = 4 ^ (k - 1) * 4 := by
  rw [← Nat.pow_add_one, Nat.sub_add_cancel hk1]

/-! ## bit operations as arithmetic -/

theorem xor3 {v : Nat} (hv : v < 4) : v ^^^ 3 = 3 - v := by
  have : ∀ v, v < 4 → v ^^^ 3 = 3 - v := by decide
  exact this v hv

theorem and3 (x : Nat) : x &&& 3 = x % 4 := Nat.and_two_pow_sub_one_eq_mod x 2

theorem shr2 (x : Nat) : x >>> 2 = x / 4 := Nat.shiftRight_eq_div_pow x 2

/-- a `k`-digit register, `k ≤ 31`, has room for one more digit -/
theorem shl2_or {k f v : Nat} (hk : k ≤ 31) (hf : f < 4 ^ k) (hv : v < 4) : shl64 f 2 ||| v = f * 4 + v := by
  have h62 := pow_le_62 hk
  have h1 : f <<< 2 = f * 4 := by rw [Nat.shiftLeft_eq]
  unfold shl64
  rw [Nat.mod_eq_of_lt (by unfold W64; omega), ← Nat.shiftLeft_add_eq_or_of_lt (by simpa using hv) f, h1]

/-! ## the table -/

theorem clean_iff (b : Nat) : clean b = true ↔ nt4 b < 4 := by
  simp [clean]

theorem clean_false_iff (b : Nat) : clean b = false ↔ ¬ nt4 b < 4 := by
  simp [clean]

theorem nt4_letterOf {d : Nat} (hd : d < 4) : nt4 (letterOf d) = d := by
  have : ∀ d, d < 4 → nt4 (letterOf d) = d := by decide
  exact this d hd

theorem compDigit_lt (d : Nat) : compDigit d < 4 := Nat.lt_succ_of_le (Nat.sub_le 3 d)

theorem compDigit_add {d : Nat} (hd : d < 4) : compDigit d + d = 3 := Nat.sub_add_cancel (Nat.le_of_lt_succ hd)

theorem compDigit_compDigit {d : Nat} (hd : d < 4) : compDigit (compDigit d) = d :=
  Nat.sub_sub_self (Nat.le_of_lt_succ hd)

theorem letterOf_nt4 {c : Nat} (hc : c = 65 ∨ c = 67 ∨ c = 71 ∨ c = 84) : letterOf (nt4 c) = c := by
  rcases hc with h | h | h | h <;> subst h <;> decide

theorem letterOf_alphabet : ∀ d, letterOf d = 65 ∨ letterOf d = 67 ∨ letterOf d = 71 ∨ letterOf d = 84
  | 0 => .inl rfl
  | 1 => .inr (.inl rfl)
  | 2 => .inr (.inr (.inl rfl))
  | _ + 3 => .inr (.inr (.inr rfl))

theorem rcByte_of_clean {b : Nat} (h : clean b = true) : rcByte b = letterOf (compDigit (nt4 b)) := by
  simp [rcByte, h]

theorem rcByte_of_not_clean {b : Nat} (h : clean b = false) : rcByte b = b := by
  simp [rcByte, h]

theorem nt4_rcByte {b : Nat} (h : clean b = true) : nt4 (rcByte b) = compDigit (nt4 b) := by
  rw [rcByte_of_clean h, nt4_letterOf (compDigit_lt _)]

theorem clean_rcByte (b : Nat) : clean (rcByte b) = clean b := by
  cases h : clean b
  · rw [rcByte_of_not_clean h, h]
  · rw [clean_iff, nt4_rcByte h]; exact compDigit_lt _

/-! ## `encDigits` -/

theorem foldl_enc (a : Nat) (ds : List Nat) :
    ds.foldl (fun a d => a * 4 + d) a = a * 4 ^ ds.length + encDigits ds := by
  induction ds generalizing a with
  | nil => simp [encDigits]
  | cons d ds ih =>
    simp only [encDigits, List.foldl_cons, List.length_cons] at ih ⊢
    rw [ih (a * 4 + d), ih (0 * 4 + d), Nat.pow_succ]
    simp only [Nat.add_mul, Nat.zero_mul, Nat.zero_add]
    rw [Nat.mul_assoc, Nat.mul_comm 4, Nat.add_assoc]

theorem encDigits_nil : encDigits [] = 0 := rfl

theorem encDigits_append (a b : List Nat) :
    encDigits (a ++ b) = encDigits a * 4 ^ b.length + encDigits b := by
  rw [encDigits, List.foldl_append, foldl_enc]; rfl

theorem encDigits_singleton (d : Nat) : encDigits [d] = d := by
  simp [encDigits]

theorem encDigits_cons (d : Nat) (ds : List Nat) :
    encDigits (d :: ds) = d * 4 ^ ds.length + encDigits ds := by
  rw [← List.singleton_append, encDigits_append, encDigits_singleton]

theorem encDigits_concat (ds : List Nat) (d : Nat) : encDigits (ds ++ [d]) = encDigits ds * 4 + d := by
  rw [encDigits_append, encDigits_singleton, List.length_singleton, Nat.pow_one]

theorem encDigits_lt (ds : List Nat) (h : ∀ d ∈ ds, d < 4) : encDigits ds < 4 ^ ds.length := by
  induction ds with
  | nil => exact Nat.one_pos
  | cons d ds ih =>
    rw [encDigits_cons, List.length_cons, Nat.add_comm ds.length]
    exact concat_lt (p := 1) (h d (List.mem_cons_self ..)) (ih fun x hx => h x (List.mem_cons_of_mem _ hx))

/-! ## `digitsOf` -/

theorem digitsOf_length (k x : Nat) : (digitsOf k x).length = k := by
  induction k generalizing x with
  | zero => rfl
  | succ k ih => simp [digitsOf, ih]

theorem digitsOf_lt (k x : Nat) : ∀ d ∈ digitsOf k x, d < 4 := by
  induction k generalizing x with
  | zero => simp [digitsOf]
  | succ k ih =>
    intro d hd
    simp only [digitsOf, List.mem_append, List.mem_singleton] at hd
    rcases hd with hd | rfl
    · exact ih _ d hd
    · exact Nat.mod_lt _ (by decide)

theorem encDigits_digitsOf (k x : Nat) : encDigits (digitsOf k x) = x % 4 ^ k := by
  induction k generalizing x with
  | zero => simp [digitsOf, encDigits, Nat.mod_one]
  | succ k ih =>
    rw [digitsOf, encDigits_concat, ih, Nat.pow_succ', Nat.mod_mul, Nat.add_comm, Nat.mul_comm]

theorem digitsOf_add (p q a b : Nat) (hb : b < 4 ^ q) :
    digitsOf (p + q) (a * 4 ^ q + b) = digitsOf p a ++ digitsOf q b := by
  induction q generalizing b with
  | zero => simp only [Nat.pow_zero, Nat.lt_one_iff] at hb; simp [hb, digitsOf]
  | succ q ih =>
    rw [Nat.pow_succ'] at hb ⊢
    rw [← Nat.add_assoc, digitsOf, digitsOf, ← List.append_assoc, ← ih (b / 4) (Nat.div_lt_of_lt_mul hb)]
    -- left: `(a * (4 * 4 ^ q) + b) / 4 = a * 4 ^ q + b / 4`, and the low digit is that of `b`
    rw [Nat.mul_left_comm, Nat.mul_add_div (by decide), Nat.mul_add_mod]

theorem digitsOf_encDigits (ds : List Nat) (h : ∀ d ∈ ds, d < 4) :
    digitsOf ds.length (encDigits ds) = ds := by
  induction ds with
  | nil => rfl
  | cons d ds ih =>
    have hds := fun x hx => h x (List.mem_cons_of_mem _ hx)
    rw [encDigits_cons, List.length_cons, Nat.add_comm ds.length, digitsOf_add 1 _ _ _ (encDigits_lt ds hds), ih hds]
    exact congrArg (· :: ds) (Nat.mod_eq_of_lt (h d (List.mem_cons_self ..)))

/-! ## reverse complement of a digit list, `revCompSpec` -/

def rcDigits (ds : List Nat) : List Nat := ds.reverse.map compDigit

theorem rcEnc_eq (w : List Nat) : rcEnc w = encDigits (rcDigits (w.map nt4)) := rfl

theorem revCompSpec_eq (k x : Nat) : revCompSpec k x = encDigits (rcDigits (digitsOf k x)) := rfl

theorem rcDigits_length (ds : List Nat) : (rcDigits ds).length = ds.length := by
  simp [rcDigits]

theorem rcDigits_lt (ds : List Nat) : ∀ d ∈ rcDigits ds, d < 4 := by
  intro d hd
  obtain ⟨e, _, rfl⟩ := List.mem_map.1 hd
  exact compDigit_lt e

theorem rcDigits_append (a b : List Nat) : rcDigits (a ++ b) = rcDigits b ++ rcDigits a := by
  simp [rcDigits]

theorem rcDigits_rcDigits {ds : List Nat} (h : ∀ d ∈ ds, d < 4) : rcDigits (rcDigits ds) = ds := by
  rw [rcDigits, rcDigits, ← List.map_reverse, List.reverse_reverse, List.map_map]
  exact (List.map_congr_left fun d hd => compDigit_compDigit (h d hd)).trans (List.map_id ds)

theorem sum_rcDigits {ds : List Nat} (h : ∀ d ∈ ds, d < 4) : (rcDigits ds).sum + ds.sum = 3 * ds.length := by
  induction ds with
  | nil => rfl
  | cons d ds ih =>
    have hd := compDigit_add (h d (List.mem_cons_self ..))
    have := ih fun x hx => h x (List.mem_cons_of_mem _ hx)
    rw [rcDigits, List.reverse_cons, List.map_append, List.sum_append, List.sum_cons, List.length_cons]
    show (rcDigits ds).sum + (compDigit d + 0) + (d + ds.sum) = 3 * (ds.length + 1)
    omega

theorem encDigits_rcDigits_lt (ds : List Nat) : encDigits (rcDigits ds) < 4 ^ ds.length := by
  have := encDigits_lt _ (rcDigits_lt ds)
  rwa [rcDigits_length] at this

theorem digitsOf_revCompSpec (k x : Nat) : digitsOf k (revCompSpec k x) = rcDigits (digitsOf k x) := by
  have := digitsOf_encDigits _ (rcDigits_lt (digitsOf k x))
  rwa [rcDigits_length, digitsOf_length] at this

/-- the recursion that `Canon.rc` is defined by: pop the low digit, complement, push on top -/
theorem revCompSpec_succ (k x : Nat) :
    revCompSpec (k + 1) x = compDigit (x % 4) * 4 ^ k + revCompSpec k (x / 4) := by
  rw [revCompSpec_eq, digitsOf, rcDigits_append, encDigits_append, rcDigits_length, digitsOf_length]
  exact congrArg (· * 4 ^ k + _) (encDigits_singleton _)

theorem revCompSpec_add (p q a b : Nat) (hb : b < 4 ^ q) :
    revCompSpec (p + q) (a * 4 ^ q + b) = revCompSpec q b * 4 ^ p + revCompSpec p a := by
  rw [revCompSpec_eq, digitsOf_add p q a b hb, rcDigits_append, encDigits_append, rcDigits_length,
    digitsOf_length]
  rfl

/-! ## the loops `revComp` and `numericToKmer` -/

/-- `r` holds the `m` digits popped so far; the shift loses nothing while they fit the word, `m + n ≤ 32` -/
theorem revCompLoop_eq (n : Nat) : ∀ (m x r : Nat), m + n ≤ 32 → r < 4 ^ m →
    revCompLoop n x r = r * 4 ^ n + revCompSpec n x := by
  induction n with
  | zero => intro m x r _ _; exact (Nat.mul_one r).symm
  | succ n ih =>
    intro m x r hm hr
    have hc := compDigit_lt (x % 4)
    have hm' : m + 1 + n ≤ 32 := by rw [Nat.add_right_comm]; exact hm
    have hupd : shl64 r 2 ||| ((x &&& 3) ^^^ 3) = r * 4 + compDigit (x % 4) := by
      rw [and3, xor3 (Nat.mod_lt _ (by decide))]
      exact shl2_or (Nat.le_of_succ_le_succ (Nat.le_trans (Nat.le_add_right _ n) hm')) hr hc
    rw [revCompLoop, hupd, shr2, ih (m + 1) (x / 4) _ hm' (push_lt hr hc), revCompSpec_succ, Nat.pow_succ',
      Nat.add_mul, Nat.mul_assoc, Nat.add_assoc]

theorem Canon.revComp_eq_spec (k x : Nat) (hk : k ≤ 31) : revComp k x = revCompSpec k x := by
  rw [revComp, revCompLoop_eq k 0 x 0 (by omega) Nat.one_pos, Nat.zero_mul, Nat.zero_add]

theorem numericToKmerLoop_eq (n : Nat) : ∀ (x : Nat) (acc : List Nat),
    numericToKmerLoop n x acc = (digitsOf n x).map letterOf ++ acc := by
  induction n with
  | zero => intro x acc; rfl
  | succ n ih =>
    intro x acc
    rw [numericToKmerLoop, ih, shr2, and3, digitsOf]
    simp

/-! ## windows of bytes -/

theorem map_nt4_lt {w : List Nat} (h : w.all clean = true) : ∀ d ∈ w.map nt4, d < 4 := by
  intro d hd
  obtain ⟨b, hb, rfl⟩ := List.mem_map.1 hd
  exact (clean_iff b).1 (List.all_eq_true.1 h b hb)

theorem enc_lt {w : List Nat} (h : w.all clean = true) : enc w < 4 ^ w.length := by
  have := encDigits_lt (w.map nt4) (map_nt4_lt h)
  rwa [List.length_map] at this

theorem rcEnc_lt (w : List Nat) : rcEnc w < 4 ^ w.length := by
  have := encDigits_rcDigits_lt (w.map nt4)
  rwa [List.length_map] at this

theorem enc_append (a b : List Nat) : enc (a ++ b) = enc a * 4 ^ b.length + enc b := by
  rw [enc, List.map_append, encDigits_append, List.length_map]; rfl

theorem rcEnc_append (a b : List Nat) : rcEnc (a ++ b) = rcEnc b * 4 ^ a.length + rcEnc a := by
  rw [rcEnc_eq, List.map_append, rcDigits_append, encDigits_append, rcDigits_length, List.length_map]; rfl

theorem enc_concat (w : List Nat) (b : Nat) : enc (w ++ [b]) = enc w * 4 + nt4 b := by
  rw [enc_append]; exact congrArg (enc w * 4 + ·) (encDigits_singleton _)

theorem rcEnc_concat (w : List Nat) (b : Nat) :
    rcEnc (w ++ [b]) = compDigit (nt4 b) * 4 ^ w.length + rcEnc w := by
  rw [rcEnc_append]; exact congrArg (· * 4 ^ w.length + _) (encDigits_singleton _)

theorem rcEnc_eq_revCompSpec {w : List Nat} (h : w.all clean = true) :
    rcEnc w = revCompSpec w.length (enc w) := by
  have := digitsOf_encDigits (w.map nt4) (map_nt4_lt h)
  rw [List.length_map] at this
  rw [revCompSpec, enc, this, rcEnc]

theorem enc_replicate_A (k : Nat) : enc (List.replicate k 65) = 0 := by
  induction k with
  | zero => rfl
  | succ k ih => rw [List.replicate_succ', enc_concat, ih]; rfl

theorem rcEnc_replicate_A (k : Nat) : rcEnc (List.replicate k 65) + 1 = 4 ^ k := by
  induction k with
  | zero => rfl
  | succ k ih =>
    rw [List.replicate_succ', rcEnc_concat, List.length_replicate, Nat.pow_succ, ← ih,
      show compDigit (nt4 65) = 3 from rfl]
    omega

/-! ## text of a code -/

theorem decodeSpec_succ (k x : Nat) : decodeSpec (k + 1) x = decodeSpec k (x / 4) ++ [letterOf (x % 4)] := by
  rw [decodeSpec, digitsOf, List.map_append]; rfl

theorem map_nt4_letterOf {ds : List Nat} (h : ∀ d ∈ ds, d < 4) : (ds.map letterOf).map nt4 = ds := by
  rw [List.map_map]
  exact (List.map_congr_left fun d hd => nt4_letterOf (h d hd)).trans (List.map_id ds)

theorem map_nt4_decodeSpec (k x : Nat) : (decodeSpec k x).map nt4 = digitsOf k x :=
  map_nt4_letterOf (digitsOf_lt k x)

theorem all_clean_decodeSpec (k x : Nat) : (decodeSpec k x).all clean = true := by
  rw [List.all_eq_true]
  intro c hc
  rw [clean_iff]
  exact digitsOf_lt k x _ (map_nt4_decodeSpec k x ▸ List.mem_map_of_mem hc)

end KT
