import KtVerif.Model.Display
import KtVerif.Proofs.Float
import KtVerif.Proofs.FloatDiv
/-!
# `format!("{}", x)` / `str::parse::<f64>` on the exact binary64 emulation: helpers

Scaling numerator and denominator of `roundRat` by a common factor changes nothing, hence `decToF64 (D·10^k) (e-k) =
decToF64 D e`; the digit search only returns candidates it has checked; the positional text is read back digit for digit.
`f64One = 2^1074`, `5^1074`, `10^1074` stay symbolic throughout.
-/
namespace KT.Disp
open KT KT.Fl

attribute [local irreducible] f64One  -- see the note in `FloatDiv.lean`

theorem ten_pow_pos (k : Nat) : 0 < 10 ^ k := Nat.pow_pos (by decide)

/-! ## `decToF64` -/

theorem decToF64_eq (D : Nat) (e : Int) (p q : Nat) (h : e = (p : Int) - (q : Int)) :
    decToF64 D e = roundRat (D * 10 ^ p * f64One) (10 ^ q) := by
  subst h
  unfold decToF64
  split
  · rename_i he
    have hqp : q ≤ p := by omega
    -- `D·10^(p-q)·f64One / 1`, scaled by `10^q`
    rw [Int.toNat_sub, ← roundRat_scale _ 1 _ (ten_pow_pos q), Nat.one_mul, Nat.mul_right_comm, Nat.mul_assoc D,
      ← Nat.pow_add, Nat.sub_add_cancel hqp]
  · rename_i he
    have hpq : p ≤ q := by omega
    -- `D·f64One / 10^(q-p)`, scaled by `10^p`
    rw [Int.neg_sub, Int.toNat_sub, ← roundRat_scale _ _ _ (ten_pow_pos p), ← Nat.pow_add, Nat.sub_add_cancel hpq,
      Nat.mul_right_comm]

theorem decToF64_scale (D k : Nat) (e : Int) : decToF64 (D * 10 ^ k) (e - (k : Int)) = decToF64 D e := by
  have he : e = (e.toNat : Int) - ((-e).toNat : Int) := (Int.toNat_sub_toNat_neg e).symm
  have hk : e - (k : Int) = (e.toNat : Int) - (((-e).toNat + k : Nat) : Int) := by omega
  rw [decToF64_eq D e _ _ he, decToF64_eq (D * 10 ^ k) _ _ _ hk, Nat.pow_add,
    ← roundRat_scale _ (10 ^ (-e).toNat) _ (ten_pow_pos k)]
  -- the numerators agree up to the order of the factors
  rw [Nat.mul_right_comm D, Nat.mul_right_comm (D * _)]

theorem decToF64_scale10 (D : Nat) (e : Int) : decToF64 (D * 10) e = decToF64 D (e + 1) := by
  have := decToF64_scale D 1 (e + 1)
  rwa [Nat.pow_one, Int.natCast_one, Int.add_sub_cancel] at this

theorem decToF64_zero (e : Int) : decToF64 0 e = 0 := by
  unfold decToF64
  split <;> simp only [Nat.zero_mul, roundRat_zero]

theorem decToF64_mono (D D' : Nat) (e : Int) (h : D ≤ D') : decToF64 D e ≤ decToF64 D' e := by
  unfold decToF64
  split
  · exact roundRat_mono _ _ _ (by decide)
      (Nat.mul_le_mul_right _ (Nat.mul_le_mul_right _ h))
  · exact roundRat_mono _ _ _ (ten_pow_pos _) (Nat.mul_le_mul_right _ h)

theorem decToF64_isF64 (D : Nat) (e : Int) : IsF64 (decToF64 D e) := by
  unfold decToF64
  split <;> exact roundRat_isF64 _ _

theorem stripZeros_sound : ∀ (fuel D : Nat) (e : Int),
    decToF64 (stripZeros fuel D e).1 (stripZeros fuel D e).2 = decToF64 D e := by
  intro fuel
  induction fuel with
  | zero => intro D e; rfl
  | succ fuel ih =>
    intro D e
    unfold stripZeros
    split
    · rename_i h
      rw [ih, ← decToF64_scale10, Nat.div_mul_cancel (Nat.dvd_of_mod_eq_zero h.2)]
    · rfl

/-! ## the digit search -/

theorem scaledBy_pos (n : Nat) (e : Int) : 0 < (scaledBy n e).2 := by
  unfold scaledBy
  split
  · exact Nat.mul_pos f64One_pos (ten_pow_pos _)
  · exact f64One_pos

theorem scaledBy_eq (n : Nat) (e : Int) : scaledBy n e = (n * 10 ^ (-e).toNat, f64One * 10 ^ e.toNat) := by
  unfold scaledBy
  split
  · rename_i he
    rw [Int.toNat_eq_zero.2 (Int.neg_nonpos_of_nonneg he), Nat.pow_zero, Nat.mul_one]
  · rename_i he
    rw [Int.toNat_eq_zero.2 (Int.le_of_lt (Int.not_le.1 he)), Nat.pow_zero, Nat.mul_one]

/-- the decimal just below the exact value does not read back above `n` -/
theorem decToF64_floor_le (n : Nat) (e : Int) (hn : IsF64 n) :
    decToF64 (n * 10 ^ (-e).toNat / (f64One * 10 ^ e.toNat)) e ≤ n := by
  rw [decToF64_eq _ e _ _ (Int.toNat_sub_toNat_neg e).symm]
  apply roundRat_le_of_le (ten_pow_pos _) hn
  rw [Nat.mul_assoc, Nat.mul_comm _ f64One]
  exact Nat.div_mul_le_self _ _

/-- the decimal just above the exact value does not read back below `n` -/
theorem le_decToF64_ceil (n : Nat) (e : Int) (hn : IsF64 n) :
    n ≤ decToF64 (n * 10 ^ (-e).toNat / (f64One * 10 ^ e.toNat) + 1) e := by
  rw [decToF64_eq _ e _ _ (Int.toNat_sub_toNat_neg e).symm]
  apply le_roundRat_of_le (ten_pow_pos _) hn
  rw [Nat.mul_assoc, Nat.mul_comm _ f64One, Nat.mul_comm _ (f64One * _)]
  exact Nat.le_of_lt (Nat.lt_mul_div_succ _ (Nat.mul_pos f64One_pos (ten_pow_pos _)))

/-- if any decimal `D'·10^e` reads back as `n > 0`, then so does one of the two that enclose the exact value:
reading is monotone, `lo·10^e` does not read above `n` and `(lo+1)·10^e` not below -/
theorem reads_back_lo_or_succ {n D' lo : Nat} {e : Int} (hn : 0 < n) (hD : decToF64 D' e = n)
    (hlo : decToF64 lo e ≤ n) (hhi : n ≤ decToF64 (lo + 1) e) :
    (lo ≠ 0 ∧ decToF64 lo e = n) ∨ decToF64 (lo + 1) e = n := by
  rcases Nat.lt_or_ge lo D' with hlt | hge
  · exact Or.inr (Nat.le_antisymm (hD ▸ decToF64_mono (lo + 1) D' e hlt) hhi)
  · have heq : decToF64 lo e = n := Nat.le_antisymm hlo (hD ▸ decToF64_mono D' lo e hge)
    refine Or.inl ⟨fun h0 => ?_, heq⟩
    rw [h0, decToF64_zero] at heq
    exact Nat.ne_of_gt hn heq.symm

section pick
variable {P Q C : Prop} [Decidable P] [Decidable Q] [Decidable C] {lo hi : Nat} {e : Int}

/-- the choice at the end of `shortestAt` (`P`, `Q`: the lower, the upper candidate reads back): what is returned was
accepted -/
theorem pick_sound {D : Nat} {e' : Int}
    (h : (if P ∧ Q then some (if C then hi else lo, e) else if P then some (lo, e) else if Q then some (hi, e) else none)
      = some (D, e')) : e' = e ∧ (D = lo ∧ P ∨ D = hi ∧ Q) := by
  by_cases hP : P
  · by_cases hQ : Q
    · rw [if_pos ⟨hP, hQ⟩] at h
      cases h
      refine ⟨rfl, ?_⟩
      by_cases hC : C
      · rw [if_pos hC]; exact Or.inr ⟨rfl, hQ⟩
      · rw [if_neg hC]; exact Or.inl ⟨rfl, hP⟩
    · rw [if_neg (fun hc => hQ hc.2), if_pos hP] at h
      cases h
      exact ⟨rfl, Or.inl ⟨rfl, hP⟩⟩
  · rw [if_neg (fun hc => hP hc.1), if_neg hP] at h
    by_cases hQ : Q
    · rw [if_pos hQ] at h
      cases h
      exact ⟨rfl, Or.inr ⟨rfl, hQ⟩⟩
    · rw [if_neg hQ] at h
      cases h

theorem pick_isSome (h : P ∨ Q) :
    (if P ∧ Q then some (if C then hi else lo, e) else if P then some (lo, e) else if Q then some (hi, e) else none).isSome := by
  by_cases hP : P
  · by_cases hQ : Q
    · rw [if_pos ⟨hP, hQ⟩]; rfl
    · rw [if_neg (fun hc => hQ hc.2), if_pos hP]; rfl
  · rw [if_neg (fun hc => hP hc.1), if_neg hP, if_pos (h.resolve_left hP)]; rfl

end pick

theorem shortestAt_sound (n d D : Nat) (e : Int) (h : shortestAt n d = some (D, e)) : decToF64 D e = n := by
  unfold shortestAt at h
  simp only at h
  -- whatever the two candidates are
  generalize scaledBy n _ = ab at h
  obtain ⟨a, b⟩ := ab
  obtain ⟨rfl, ⟨rfl, -, hlo⟩ | ⟨rfl, hhi⟩⟩ := pick_sound h
  · exact hlo
  · exact hhi

theorem shortestAt_complete (n d D' : Nat) (hn : 0 < n)
    (hD : decToF64 D' (dec10Exp n - (d : Int) + 1) = n) : (shortestAt n d).isSome := by
  have hn64 : IsF64 n := hD ▸ decToF64_isF64 D' _
  unfold shortestAt
  simp only [scaledBy_eq]
  exact pick_isSome (reads_back_lo_or_succ hn hD (decToF64_floor_le n _ hn64) (le_decToF64_ceil n _ hn64))

theorem shortestFrom_zero (n d : Nat) : shortestFrom n 0 d = none := rfl

-- `rw [shortestFrom]` runs into the recursion limit; `rfl` alone unfolds `shortestAt n d` as far as it can before it
-- compares the two matches
attribute [local irreducible] shortestAt in
theorem shortestFrom_succ (n fuel d : Nat) : shortestFrom n (fuel + 1) d =
    match shortestAt n d with
    | some r => some r
    | none => shortestFrom n fuel (d + 1) := rfl

theorem shortestFrom_first (n : Nat) : ∀ (fuel d0 : Nat) (r : Nat × Int), shortestFrom n fuel d0 = some r →
    ∃ d, d0 ≤ d ∧ d < d0 + fuel ∧ shortestAt n d = some r ∧
      ∀ d', d0 ≤ d' → d' < d → shortestAt n d' = none := by
  intro fuel
  induction fuel with
  | zero => intro d0 r h; cases h
  | succ fuel ih =>
    intro d0 r h
    rw [shortestFrom_succ] at h
    split at h
    · rename_i r' hr
      exact ⟨d0, Nat.le_refl _, Nat.lt_add_of_pos_right (Nat.succ_pos _), hr.trans h,
        fun d' h1 h2 => absurd h2 (Nat.not_lt.2 h1)⟩
    · rename_i hr
      obtain ⟨d, h1, h2, h3, h4⟩ := ih (d0 + 1) r h
      refine ⟨d, Nat.le_of_succ_le h1, by omega, h3, fun d' h5 h6 => ?_⟩
      rcases Nat.eq_or_lt_of_le h5 with heq | hlt
      · rw [← heq]; exact hr
      · exact h4 d' hlt h6

-- for a variable exponent: comparing `(5 * 2) ^ 1074` with `10 ^ 1074`, Lean tries to evaluate the powers
theorem five_two_pow (k : Nat) : (5 : Nat) ^ k * 2 ^ k = 10 ^ k := (Nat.mul_pow 5 2 k).symm

/-- `n · 2^-1074 = n · 5^1074 · 10^-1074` exactly -/
theorem fallback_sound (n : Nat) (hn : IsF64 n) : decToF64 (n * 5 ^ 1074) (-1074) = n := by
  obtain ⟨m, j, hm, rfl⟩ := hn
  rw [decToF64_eq _ (-1074) 0 1074 rfl, Nat.pow_zero, Nat.mul_one, f64One_eq, Nat.mul_assoc, five_two_pow]
  exact roundRat_exact m j _ (ten_pow_pos _) hm

theorem shortestDec_sound (n : Nat) (hn : IsF64 n) :
    decToF64 (shortestDec n).1 (shortestDec n).2 = n := by
  unfold shortestDec
  rcases hg : (shortestFrom n 17 1).getD (n * 5 ^ 1074, -1074) with ⟨D, e⟩
  simp only
  rw [stripZeros_sound]
  cases hs : shortestFrom n 17 1 with
  | none =>
    rw [hs, Option.getD_none, Prod.mk.injEq] at hg
    rw [← hg.1, ← hg.2]
    exact fallback_sound n hn
  | some r =>
    rw [hs] at hg
    cases hg
    obtain ⟨d, _, _, h3, _⟩ := shortestFrom_first n 17 1 _ hs
    exact shortestAt_sound n d D e h3

/-! ## digit strings -/

/-- all characters are ASCII digits -/
def AllDig (l : List Nat) : Prop := ∀ c ∈ l, 48 ≤ c ∧ c ≤ 57

theorem allDigits_iff (l : List Nat) : allDigits l = true ↔ AllDig l := by
  unfold allDigits AllDig
  simp only [List.all_eq_true, decide_eq_true_eq]

theorem AllDig.append {a b : List Nat} (ha : AllDig a) (hb : AllDig b) : AllDig (a ++ b) := by
  intro c hc
  rcases List.mem_append.1 hc with h | h
  · exact ha c h
  · exact hb c h

theorem AllDig.replicate (k : Nat) : AllDig (List.replicate k 48) := by
  intro c hc
  rw [List.eq_of_mem_replicate hc]
  decide

theorem AllDig.zero : AllDig [48] := AllDig.replicate 1

theorem AllDig.take {l : List Nat} (h : AllDig l) (k : Nat) : AllDig (l.take k) :=
  fun c hc => h c (List.mem_of_mem_take hc)

theorem AllDig.drop {l : List Nat} (h : AllDig l) (k : Nat) : AllDig (l.drop k) :=
  fun c hc => h c (List.mem_of_mem_drop hc)

theorem foldl_digit_acc (l : List Nat) : ∀ acc : Nat,
    l.foldl (fun (acc c : Nat) => acc * 10 + (c - 48)) acc =
      acc * 10 ^ l.length + l.foldl (fun (acc c : Nat) => acc * 10 + (c - 48)) 0 := by
  induction l with
  | nil => intro acc; simp only [List.foldl_nil, List.length_nil, Nat.pow_zero, Nat.mul_one, Nat.add_zero]
  | cons c l ih =>
    intro acc
    simp only [List.foldl_cons, List.length_cons]
    rw [ih (acc * 10 + (c - 48)), ih (0 * 10 + (c - 48)), Nat.zero_mul, Nat.zero_add, Nat.add_mul, Nat.mul_assoc,
      ← Nat.pow_succ', Nat.add_assoc]

theorem digitsVal_append (a b : List Nat) :
    digitsVal (a ++ b) = digitsVal a * 10 ^ b.length + digitsVal b := by
  unfold digitsVal
  rw [List.foldl_append, foldl_digit_acc b]

theorem digitsVal_replicate (k : Nat) : digitsVal (List.replicate k 48) = 0 := by
  induction k with
  | zero => rfl
  | succ k ih =>
    rw [List.replicate_succ]
    exact ih

theorem natText_ne_nil (D : Nat) : natText D ≠ [] := by
  unfold natText
  intro h
  exact Nat.toDigits_ne_nil (List.map_eq_nil_iff.1 h)

theorem natText_allDig (D : Nat) : AllDig (natText D) := by
  unfold natText
  intro x hx
  obtain ⟨c, hc, rfl⟩ := List.mem_map.1 hx
  have h := Nat.isDigit_of_mem_toDigits (by decide) (by decide) hc
  unfold Char.isDigit at h
  simp only [Bool.and_eq_true, decide_eq_true_eq, ge_iff_le, UInt32.le_iff_toNat_le] at h
  exact h

theorem digitsVal_natText (D : Nat) : digitsVal (natText D) = D := by
  unfold digitsVal natText
  rw [List.foldl_map]
  have h := Nat.ofDigitChars_ten_toDigits (n := D)
  rw [Nat.ofDigitChars_eq_foldl] at h
  have e : (fun (sofar : Nat) (c : Char) => 10 * sofar + (c.toNat - '0'.toNat)) =
      (fun (acc : Nat) (c : Char) => acc * 10 + (c.toNat - 48)) := by
    funext acc c
    rw [Nat.mul_comm]; rfl
  rw [e] at h
  exact h

/-! ## the reader -/

theorem AllDig.ne_dot {l : List Nat} (h : AllDig l) : ∀ a ∈ l, decide (a ≠ 46) = true := fun a ha => by
  have := h a ha
  exact decide_eq_true (by omega)

theorem takeWhile_allDig (l : List Nat) (h : AllDig l) (rest : List Nat) :
    (l ++ 46 :: rest).takeWhile (fun x => decide (x ≠ 46)) = l ∧
    (l ++ 46 :: rest).dropWhile (fun x => decide (x ≠ 46)) = 46 :: rest := by
  rw [List.takeWhile_append_of_pos h.ne_dot, List.dropWhile_append_of_pos h.ne_dot,
    List.takeWhile_cons_of_neg (by decide), List.dropWhile_cons_of_neg (by decide), List.append_nil]
  exact ⟨rfl, rfl⟩

theorem parse_int (l : List Nat) (hne : l ≠ []) (h : AllDig l) :
    parseF64 l = some (decToF64 (digitsVal l) 0) := by
  -- no '.': `takeWhile` keeps all of `l = l ++ []`, `dropWhile` nothing
  have h1 := List.takeWhile_append_of_pos (l₂ := []) h.ne_dot
  have h2 := List.dropWhile_append_of_pos (l₂ := []) h.ne_dot
  rw [List.append_nil] at h1 h2
  unfold parseF64
  simp only [h1.trans (List.append_nil l), h2, List.dropWhile_nil]
  rw [if_pos ⟨hne, (allDigits_iff l).2 h⟩]

theorem parse_frac (ip fp : List Nat) (hi : ip ≠ []) (hf : fp ≠ []) (hid : AllDig ip) (hfd : AllDig fp) :
    parseF64 (ip ++ 46 :: fp) = some (decToF64 (digitsVal (ip ++ fp)) (-(fp.length : Int))) := by
  unfold parseF64
  simp only [(takeWhile_allDig ip hid fp).1, (takeWhile_allDig ip hid fp).2]
  rw [if_pos ⟨hi, hf, (allDigits_iff ip).2 hid, (allDigits_iff fp).2 hfd⟩]

/-! ## the three layouts of `positional`, and the round trip -/

theorem parse_zeros_right (D p : Nat) :
    parseF64 (natText D ++ List.replicate p 48) = some (decToF64 (D * 10 ^ p) 0) := by
  have hne : natText D ++ List.replicate p 48 ≠ [] := fun h => natText_ne_nil D (List.append_eq_nil_iff.1 h).1
  rw [parse_int _ hne ((natText_allDig D).append (AllDig.replicate p)), digitsVal_append, digitsVal_replicate,
    List.length_replicate, digitsVal_natText, Nat.add_zero]

theorem parse_dot_inside (l : List Nat) (hd : AllDig l) (f : Nat) (hf : 0 < f) (hlt : f < l.length) :
    parseF64 (l.take (l.length - f) ++ [46] ++ l.drop (l.length - f)) = some (decToF64 (digitsVal l) (-(f : Int))) := by
  have h1 : l.take (l.length - f) ≠ [] :=
    List.ne_nil_of_length_pos (List.length_take ▸ Nat.lt_min.2 ⟨Nat.sub_pos_of_lt hlt, Nat.lt_trans hf hlt⟩)
  have hl : (l.drop (l.length - f)).length = f := by
    rw [List.length_drop, Nat.sub_sub_self (Nat.le_of_lt hlt)]
  have h2 : l.drop (l.length - f) ≠ [] := List.ne_nil_of_length_pos (hl.symm ▸ hf)
  rw [List.append_assoc, List.singleton_append, parse_frac _ _ h1 h2 (hd.take _) (hd.drop _), List.take_append_drop, hl]

theorem parse_zeros_left (D k : Nat) : parseF64 ([48, 46] ++ List.replicate k 48 ++ natText D) =
    some (decToF64 D (-((k + (natText D).length : Nat) : Int))) := by
  have h2 : List.replicate k 48 ++ natText D ≠ [] := fun h => natText_ne_nil D (List.append_eq_nil_iff.1 h).2
  rw [List.append_assoc]
  refine (parse_frac [48] _ (List.cons_ne_nil _ _) h2 AllDig.zero ((AllDig.replicate k).append (natText_allDig D))).trans ?_
  -- the value is that of `k + 1` zeros followed by the digits
  rw [List.length_append, List.length_replicate, List.singleton_append, ← List.cons_append, ← List.replicate_succ,
    digitsVal_append, digitsVal_replicate, Nat.zero_mul, Nat.zero_add, digitsVal_natText]

theorem parse_positional (D : Nat) (e : Int) : parseF64 (positional D e) = some (decToF64 D e) := by
  unfold positional
  simp only
  by_cases he : 0 ≤ e
  · rw [if_pos he, parse_zeros_right, ← decToF64_scale D e.toNat e, Int.toNat_of_nonneg he, Int.sub_self]
  · have hfe : e = -((-e).toNat : Int) := by omega
    have hf : 0 < (-e).toNat := by omega
    rw [if_neg he]
    generalize (-e).toNat = f at hfe hf ⊢
    subst hfe
    by_cases hlt : f < (natText D).length
    · rw [if_pos hlt, parse_dot_inside _ (natText_allDig D) f hf hlt, digitsVal_natText]
    · rw [if_neg hlt, parse_zeros_left, Nat.sub_add_cancel (Nat.le_of_not_lt hlt)]

theorem parse_zero : parseF64 [48] = some 0 := by
  rw [parse_int [48] (List.cons_ne_nil _ _) AllDig.zero, show digitsVal [48] = 0 from rfl, decToF64_zero]

theorem display_roundtrip (n : Nat) (hn : ∃ m j, m < 2 ^ 53 ∧ n = m * 2 ^ j) :
    parseF64 (f64Display n) = some n := by
  unfold f64Display
  split
  · rename_i h0; rw [h0]; exact parse_zero
  · have h := shortestDec_sound n hn
    rcases hs : shortestDec n with ⟨D, e⟩
    rw [hs] at h
    simp only
    rw [parse_positional, h]

end KT.Disp
