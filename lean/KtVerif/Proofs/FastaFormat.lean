import KtVerif.Model.Fasta
/-!
# C06 helpers, part 3: file-name suffixes

`formatOf` (the code) and `formatSpec` (the documentation) look the name up in the same `suffixTable`; they differ in
how `.gz` is taken off first: every trailing repetition (`stripGz`), resp. one.
-/
namespace KT.Fa
open KT

theorem endsWith_gz (l : List Nat) : endsWith ".gz" l = ([46, 103, 122] : List Nat).isSuffixOf l := by
  unfold endsWith; rw [show ".gz".toList.map Char.toNat = [46, 103, 122] by decide]

theorem endsWith_gz_length {l : List Nat} (h : endsWith ".gz" l = true) : 3 ≤ l.length := by
  rw [endsWith_gz, List.isSuffixOf_iff_suffix] at h
  simpa using h.length_le

theorem stripGz_of_not {l : List Nat} (h : endsWith ".gz" l = false) : stripGz l = l := by
  rw [stripGz]; simp [h]

theorem stripGz_step {l : List Nat} (h : endsWith ".gz" l = true) :
    stripGz l = stripGz (l.take (l.length - 3)) := by
  rw [stripGz]
  simp [h, endsWith_gz_length h]

/-- the part of `SeqFormat::get` after `.gz` has been dealt with -/
def suffixTable (p : List Nat) : Option SeqFormat :=
  if endsWith ".fq" p || endsWith ".fastq" p then some .fastq
  else if endsWith ".fasta" p || endsWith ".fa" p || endsWith ".fna" p then some .fasta
  else none

theorem formatOf_eq_table (name : List Nat) :
    formatOf name = suffixTable (if endsWith ".gz" name then stripGz name else name) := rfl

theorem formatSpec_eq_table (name : List Nat) :
    formatSpec name =
      suffixTable (if endsWith ".gz" name then name.take (name.length - 3) else name) := by
  rw [endsWith_gz]; rfl

end KT.Fa
