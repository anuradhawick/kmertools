import KtVerif.Model.Fasta
/-!
# C06 helpers, part 1: lines

`splitLines` of a text written with `joinLines` gives the written lines back, each followed by a
terminator made of white space (`Terms`); `trimEnd` removes such a terminator; `splitFirst` passes
over bytes that are no separators; `chunks` cuts into non-empty pieces, as many as the length demands.
-/
namespace KT.Fa
open KT

/-! ## `trimEnd`, `splitFirst` -/

theorem isWs_false_of_ge {b : Nat} (h : 33 ≤ b) : isWs b = false := by
  simp only [isWs, Bool.or_eq_false_iff, Bool.and_eq_false_iff, beq_eq_false_iff_ne,
    decide_eq_false_iff_not]
  omega

def AllWs (t : List Nat) : Prop := ∀ b ∈ t, isWs b = true

def LastOk (l : List Nat) : Prop := ∀ x, l.getLast? = some x → isWs x = false

theorem trimEnd_append_ws (l t : List Nat) (hl : LastOk l) (ht : AllWs t) : trimEnd (l ++ t) = l := by
  have hd : l.reverse.dropWhile isWs = l.reverse := by
    cases hr : l.reverse with
    | nil => rfl
    | cons y ys =>
      have : l.getLast? = some y := by rw [← List.head?_reverse, hr]; rfl
      exact List.dropWhile_cons_of_neg (by simp [hl y this])
  rw [trimEnd, List.reverse_append, List.dropWhile_append_of_pos fun b hb => ht b (List.mem_reverse.1 hb),
    hd, List.reverse_reverse]

theorem lastOk_of_graphic {l : List Nat} (h : ∀ b ∈ l, 33 ≤ b) : LastOk l :=
  fun x hx => isWs_false_of_ge (h x (List.mem_of_getLast? hx))

theorem lastOk_of_ge {l : List Nat} (h : ∀ b ∈ l, 32 ≤ b) (hl : l.getLast? ≠ some 32) : LastOk l := by
  intro x hx
  have hne : 32 ≠ x := fun e => hl (e ▸ hx)
  exact isWs_false_of_ge (Nat.lt_of_le_of_ne (h x (List.mem_of_getLast? hx)) hne)

theorem LastOk.cons {l : List Nat} (h : LastOk l) (hne : l ≠ []) (b : Nat) : LastOk (b :: l) := by
  intro x hx
  rw [List.getLast?_cons_of_ne_nil hne] at hx
  exact h x hx

theorem LastOk.append {a b : List Nat} (ha : LastOk a) (hb : LastOk b) : LastOk (a ++ b) := by
  intro x hx
  rw [List.getLast?_append, Option.or_eq_some_iff] at hx
  exact hx.elim (hb x) fun h => ha x h.2

theorem splitFirst_append (p : Nat → Bool) (a rest : List Nat) (ha : ∀ b ∈ a, p b = false) :
    splitFirst p (a ++ rest) = (a ++ (splitFirst p rest).1, (splitFirst p rest).2) := by
  induction a with
  | nil => rfl
  | cons b bs ih => simp [splitFirst, ha b (by simp), ih fun x hx => ha x (by simp [hx])]

/-! ## `splitLines` -/

def NoNL (l : List Nat) : Prop := ∀ b ∈ l, b ≠ 10

theorem noNL_of_ge {l : List Nat} (h : ∀ b ∈ l, 32 ≤ b) : NoNL l := by
  intro b hb
  have := h b hb
  omega

theorem splitLinesAux_append (cur line rest : List Nat) (h : NoNL line) :
    splitLinesAux cur (line ++ rest) = splitLinesAux (line.reverse ++ cur) rest := by
  induction line generalizing cur with
  | nil => rfl
  | cons b bs ih =>
    rw [List.cons_append, splitLinesAux, if_neg (h b (by simp)), ih _ fun x hx => h x (by simp [hx])]
    simp

theorem splitLinesAux_line (cur line rest : List Nat) (h : NoNL line) :
    splitLinesAux cur (line ++ 10 :: rest) = (cur.reverse ++ line ++ [10]) :: splitLinesAux [] rest := by
  rw [splitLinesAux_append cur line _ h, splitLinesAux]
  simp

def IsEol (e : List Nat) : Prop := e = [10] ∨ e = [13, 10]

theorem IsEol.allWs {e : List Nat} (h : IsEol e) : AllWs e := by
  unfold AllWs
  rcases h with rfl | rfl <;> decide

theorem splitLines_line (e line rest : List Nat) (he : IsEol e) (h : NoNL line) :
    splitLines (line ++ e ++ rest) = (line ++ e) :: splitLines rest := by
  rcases he with rfl | rfl
  · simpa [splitLines] using splitLinesAux_line [] line rest h
  · have h' : NoNL (line ++ [13]) := fun b hb =>
      (List.mem_append.1 hb).elim (h b) fun hb => by rw [List.mem_singleton.1 hb]; decide
    simpa [splitLines] using splitLinesAux_line [] (line ++ [13]) rest h'

theorem splitLines_last (line : List Nat) (h : NoNL line) (hne : line ≠ []) :
    splitLines line = [line] := by
  have := splitLinesAux_append [] line [] h
  rw [List.append_nil] at this
  rw [splitLines, this, splitLinesAux]
  simp [hne]

/-! ## lines with terminators -/

def Term (l l' : List Nat) : Prop := ∃ t, l' = l ++ t ∧ AllWs t

theorem Term.refl (l : List Nat) : Term l l := ⟨[], (List.append_nil l).symm, nofun⟩

theorem Term.head? {b : Nat} {l l' : List Nat} (h : Term (b :: l) l') : l'.head? = some b := by
  obtain ⟨t, rfl, _⟩ := h
  rfl

inductive Terms : List (List Nat) → List (List Nat) → Prop
  | nil : Terms [] []
  | cons {l l' ls ls'} : Term l l' → Terms ls ls' → Terms (l :: ls) (l' :: ls')

theorem Terms.cons_inv {l : List Nat} {ls ls' : List (List Nat)} (h : Terms (l :: ls) ls') :
    ∃ l' rest', ls' = l' :: rest' ∧ Term l l' ∧ Terms ls rest' := by
  cases h with
  | cons h1 h2 => exact ⟨_, _, rfl, h1, h2⟩

theorem Terms.append_inv {a b : List (List Nat)} {ls' : List (List Nat)} (h : Terms (a ++ b) ls') :
    ∃ a' b', ls' = a' ++ b' ∧ Terms a a' ∧ Terms b b' := by
  induction a generalizing ls' with
  | nil => exact ⟨[], ls', rfl, Terms.nil, h⟩
  | cons x xs ih =>
    obtain ⟨l', rest', rfl, h1, h2⟩ := Terms.cons_inv h
    obtain ⟨a', b', rfl, h3, h4⟩ := ih h2
    exact ⟨l' :: a', b', rfl, Terms.cons h1 h3, h4⟩

theorem Terms.length_eq {a a' : List (List Nat)} (h : Terms a a') : a'.length = a.length := by
  induction h with
  | nil => rfl
  | cons _ _ ih => simp [ih]

theorem splitLines_joinLines (cfg : SerCfg) (lines : List (List Nat)) (he : IsEol cfg.eol)
    (hl : ∀ l ∈ lines, NoNL l ∧ l ≠ []) :
    Terms lines (splitLines (joinLines cfg lines)) := by
  induction lines with
  | nil => exact Terms.nil
  | cons l ls ih =>
    have ⟨hnl, hne⟩ := hl l (by simp)
    have hterm : Term l (l ++ cfg.eol) := ⟨cfg.eol, rfl, he.allWs⟩
    cases ls with
    | nil =>
      unfold joinLines
      split
      · rw [← List.append_nil (l ++ cfg.eol), splitLines_line cfg.eol l [] he hnl]
        exact Terms.cons hterm Terms.nil
      · rw [splitLines_last l hnl hne]
        exact Terms.cons (Term.refl l) Terms.nil
    | cons l2 ls2 =>
      -- the third equation of `joinLines`; as a `rw` it leaves `l2 :: ls2 = [] → False` to prove
      show Terms _ (splitLines (l ++ cfg.eol ++ joinLines cfg (l2 :: ls2)))
      rw [splitLines_line cfg.eol l _ he hnl]
      exact Terms.cons hterm (ih fun x hx => hl x (by simp [hx]))

/-! ## `chunks` -/

theorem chunks_nil (w : Nat) : chunks w [] = [] := by
  rw [chunks]; simp

theorem chunks_zero (l : List Nat) (h : l ≠ []) : chunks 0 l = [l] := by
  rw [chunks]; simp [h]

theorem chunks_step (w : Nat) (l : List Nat) (h : l ≠ []) (hw : w ≠ 0) :
    chunks w l = l.take w :: chunks w (l.drop w) := by
  rw [chunks]
  simp [h, hw]

-- the cases of `fun_induction chunks`: the empty list; no wrapping (`w = 0`); one piece taken off
theorem chunks_flatten (w : Nat) (l : List Nat) : (chunks w l).flatten = l := by
  fun_induction chunks w l with
  | case1 => rfl
  | case2 x => exact List.append_nil x
  | case3 x _ ih => rw [List.flatten_cons, ih, List.take_append_drop]

theorem nil_not_mem_chunks (w : Nat) (l : List Nat) : [] ∉ chunks w l := by
  fun_induction chunks w l with
  | case1 => exact List.not_mem_nil
  | case2 x _ hne => simpa using Ne.symm hne
  | case3 x h ih =>
    rw [not_or] at h
    rw [List.mem_cons, not_or]
    exact ⟨fun e => (List.take_eq_nil_iff.1 e.symm).elim h.2 h.1, ih⟩

theorem chunks_subset {w : Nat} {l c : List Nat} (hc : c ∈ chunks w l) : ∀ b ∈ c, b ∈ l := by
  intro b hb
  rw [← chunks_flatten w l]
  exact List.mem_flatten.2 ⟨c, hc, hb⟩

theorem chunks_length_congr (w : Nat) (l1 l2 : List Nat) (h : l1.length = l2.length) :
    (chunks w l1).length = (chunks w l2).length := by
  fun_induction chunks w l1 generalizing l2 with
  | case1 => rw [List.eq_nil_of_length_eq_zero h.symm, chunks_nil]
  | case2 x hx hne =>
    have hne2 : l2 ≠ [] := by rintro rfl; exact hne (List.eq_nil_of_length_eq_zero h)
    cases hx.resolve_left hne
    rw [chunks_zero l2 hne2]
    rfl
  | case3 x hx ih =>
    rw [not_or] at hx
    have hne2 : l2 ≠ [] := by rintro rfl; exact hx.1 (List.eq_nil_of_length_eq_zero h)
    rw [chunks_step w l2 hne2 hx.2, List.length_cons, List.length_cons, ih (l2.drop w) (by simp [h])]

end KT.Fa
