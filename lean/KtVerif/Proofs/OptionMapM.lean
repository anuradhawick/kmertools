/-!
# `List.mapM` in `Option`

The result is `some rows` exactly if every element succeeds, `rows` being the results in order; it is `none` exactly if
some element fails.  The readers (`parseTuple`, `parseRowTuples`, …), the k-mer CGR row and the Python batch calls are
all a `mapM` in `Option` and use nothing else about it.
-/
namespace KT
variable {α β γ : Type}

theorem mapM_eq_some (f : α → Option β) (l : List α) (rows : List β) :
    l.mapM f = some rows ↔ l.map f = rows.map some := by
  induction l generalizing rows with
  | nil => cases rows <;> simp
  | cons a l ih =>
    -- `(a :: l).mapM f = some rows` says `rows = b :: bs` with `f a = some b` and `l.mapM f = some bs`
    simp only [List.mapM_cons, Option.bind_eq_bind, Option.bind_eq_some_iff, Option.pure_def, Option.some.injEq, ih]
    cases rows <;> simp

theorem mapM_eq_none (f : α → Option β) (l : List α) : l.mapM f = none ↔ ∃ a ∈ l, f a = none := by
  induction l with
  | nil => simp
  | cons a l ih =>
    simp only [List.mapM_cons, List.mem_cons, exists_eq_or_imp, ← ih]
    cases f a <;> cases l.mapM f <;> simp

/-- reading back what was written: `g` undoes `f` on every element -/
theorem mapM_map_of_inv (f : β → Option α) (g : α → β) (l : List α) (H : ∀ a ∈ l, f (g a) = some a) :
    (l.map g).mapM f = some l := by
  rw [mapM_eq_some, List.map_map]
  exact List.map_congr_left H

theorem map_eq_map_of_mapM {f : α → Option β} {g : α → γ} {h : β → γ} (H : ∀ a b, f a = some b → g a = h b)
    {l : List α} {rows : List β} (hm : l.mapM f = some rows) : l.map g = rows.map h := by
  rw [mapM_eq_some] at hm
  induction l generalizing rows with
  | nil => rw [List.map_nil, List.nil_eq, List.map_eq_nil_iff] at hm; rw [hm]; rfl
  | cons a l ih =>
    cases rows with
    | nil => cases hm
    | cons r rows =>
      rw [List.map_cons, List.map_cons, List.cons.injEq] at hm
      rw [List.map_cons, List.map_cons, H a r hm.1, ih hm.2]

end KT
