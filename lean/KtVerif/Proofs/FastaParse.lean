import KtVerif.Proofs.FastaLines
/-!
# C06 helpers, part 2: the record grammars on the lines of a well-formed file

What the readers need of a record is less than `wfFasta` / `wfFastq`: a header that parses
(`HeaderOk`) and graphic bases other than the marker that ends the block (`>`, resp. `+`); for FASTQ
also what `FastqOk` adds.  `fastaRecords_lines` / `fastqRecords_lines` are stated with just that.
-/
namespace KT.Fa
open KT

def toRaw (r : SrcRec) : RawRec := { id := r.id, desc := r.desc, seq := r.seq }

/-! ## well-formedness, unpacked -/

theorem isGraph_ge {b : Nat} (h : isGraph b = true) : 33 ≤ b := by
  simp only [isGraph, Bool.and_eq_true, decide_eq_true_eq] at h; exact h.1

theorem isPrint_ge {b : Nat} (h : isPrint b = true) : 32 ≤ b := by
  simp only [isPrint, Bool.and_eq_true, decide_eq_true_eq] at h; exact h.1

theorem isWordByte_ge {b : Nat} (h : isWordByte b = true) : 33 ≤ b := by
  simp only [isWordByte, Bool.or_eq_true, decide_eq_true_eq] at h
  rcases h with h | h
  · exact isGraph_ge h
  · omega

theorem isDescByte_ge {b : Nat} (h : isDescByte b = true) : 32 ≤ b := by
  simp only [isDescByte, Bool.or_eq_true, decide_eq_true_eq] at h
  rcases h with h | h
  · exact isPrint_ge h
  · omega

structure HeaderOk (r : SrcRec) : Prop where
  id_ne : r.id ≠ []
  id_ge : ∀ b ∈ r.id, 33 ≤ b
  desc_ne : ∀ d, r.desc = some d → d ≠ []
  desc_ge : ∀ d, r.desc = some d → ∀ b ∈ d, 32 ≤ b
  desc_last : ∀ d, r.desc = some d → d.getLast? ≠ some 32

theorem headerOk_of_wf {r : SrcRec} (h : wfHeader r = true) : HeaderOk r := by
  unfold wfHeader at h
  simp only [Bool.and_eq_true, Bool.not_eq_true', List.isEmpty_eq_false_iff, List.all_eq_true] at h
  obtain ⟨⟨h1, h2⟩, h3⟩ := h
  have hd : ∀ d, r.desc = some d →
      ((d ≠ [] ∧ ∀ b ∈ d, isDescByte b = true) ∧ d.head? ≠ some 32) ∧ d.getLast? ≠ some 32 := by
    intro d hd
    rw [hd] at h3
    simpa only [Bool.and_eq_true, Bool.not_eq_true', List.isEmpty_eq_false_iff, List.all_eq_true,
      bne_iff_ne, ne_eq] using h3
  exact ⟨h1, fun b hb => isWordByte_ge (h2 b hb), fun d e => (hd d e).1.1.1,
    fun d e b hb => isDescByte_ge ((hd d e).1.1.2 b hb), fun d e => (hd d e).2⟩

theorem wfFasta_unpack {r : SrcRec} (h : wfFasta r = true) :
    HeaderOk r ∧ ∀ b ∈ r.seq, 33 ≤ b ∧ b ≠ 62 := by
  unfold wfFasta at h
  simp only [Bool.and_eq_true, List.all_eq_true, bne_iff_ne, ne_eq] at h
  exact ⟨headerOk_of_wf h.1, fun b hb => ⟨isGraph_ge (h.2 b hb).1, (h.2 b hb).2⟩⟩

structure FastqOk (r : SrcRec) : Prop where
  header : HeaderOk r
  seq_ne : r.seq ≠ []
  seq_ok : ∀ b ∈ r.seq, 33 ≤ b ∧ b ≠ 43
  qual_len : r.qual.length = r.seq.length
  qual_ok : ∀ b ∈ r.qual, 33 ≤ b

theorem wfFastq_unpack {r : SrcRec} (h : wfFastq r = true) : FastqOk r := by
  unfold wfFastq at h
  simp only [Bool.and_eq_true, List.all_eq_true, bne_iff_ne, ne_eq, Bool.not_eq_true',
    List.isEmpty_eq_false_iff, beq_iff_eq] at h
  obtain ⟨⟨⟨⟨h1, h2⟩, h3⟩, h4⟩, h5⟩ := h
  exact ⟨headerOk_of_wf h1, h2, fun b hb => ⟨isGraph_ge (h3 b hb).1.1, (h3 b hb).1.2⟩, h4,
    fun b hb => isGraph_ge (h5 b hb)⟩

/-! ## header lines -/

/-- the text after the marker -/
def headerTail (r : SrcRec) : List Nat :=
  r.id ++ (match r.desc with | none => [] | some d => 32 :: d)

theorem headerLine_ok {m : Nat} (hm : 32 ≤ m) {r : SrcRec} (h : HeaderOk r) :
    NoNL (headerLine m r) ∧ headerLine m r ≠ [] := by
  refine ⟨noNL_of_ge fun b hb => ?_, List.cons_ne_nil _ _⟩
  rw [headerLine, List.mem_append, List.mem_cons] at hb
  rcases hb with (rfl | hb) | hb
  · exact hm
  · exact Nat.le_of_succ_le (h.id_ge b hb)
  · split at hb
    · nomatch hb
    · next d hd =>
      rcases List.mem_cons.1 hb with rfl | hb
      · exact Nat.le_refl _
      · exact h.desc_ge d hd b hb

theorem headerTail_lastOk {r : SrcRec} (h : HeaderOk r) : LastOk (headerTail r) := by
  refine (lastOk_of_graphic h.id_ge).append ?_
  split
  · nofun
  · next d hd => exact (lastOk_of_ge (h.desc_ge d hd) (h.desc_last d hd)).cons (h.desc_ne d hd) 32

/-- `p` is `isWs` for FASTA and `(· == 32)` for FASTQ -/
theorem header_parse (m : Nat) (p : Nat → Bool) (hp32 : p 32 = true) (hp : ∀ b, 33 ≤ b → p b = false)
    {r : SrcRec} (h : HeaderOk r) {l' : List Nat} (ht : Term (headerLine m r) l') :
    l'.head? = some m ∧ splitFirst p (trimEnd (l'.drop 1)) = (r.id, r.desc) := by
  obtain ⟨t, rfl, hws⟩ := ht
  refine ⟨rfl, ?_⟩
  rw [show (headerLine m r ++ t).drop 1 = headerTail r ++ t from rfl,
    trimEnd_append_ws _ _ (headerTail_lastOk h) hws, headerTail,
    splitFirst_append p _ _ fun b hb => hp b (h.id_ge b hb)]
  cases r.desc <;> simp [splitFirst, hp32]

/-! ## sequence, separator and quality lines -/

def Graphic (c : List Nat) : Prop := c ≠ [] ∧ ∀ b ∈ c, 33 ≤ b

theorem Graphic.ok {c : List Nat} (h : Graphic c) : NoNL c ∧ c ≠ [] :=
  ⟨noNL_of_ge fun b hb => Nat.le_of_succ_le (h.2 b hb), h.1⟩

/-- the readers look at the first byte of a line and trim its end: they do not see the terminator -/
theorem Graphic.term {c c' : List Nat} (hc : Graphic c) (ht : Term c c') :
    c'.head? = c.head? ∧ trimEnd c' = c := by
  obtain ⟨t, rfl, hws⟩ := ht
  refine ⟨?_, trimEnd_append_ws _ _ (lastOk_of_graphic hc.2) hws⟩
  cases c with
  | nil => exact absurd rfl hc.1
  | cons y ys => rfl

theorem graphic_chunks {w : Nat} {l : List Nat} (hl : ∀ b ∈ l, 33 ≤ b) : ∀ c ∈ chunks w l, Graphic c :=
  fun _ hc => ⟨fun e => nil_not_mem_chunks w l (e ▸ hc), fun b hb => hl b (chunks_subset hc b hb)⟩

theorem seqLines_chunks {w x : Nat} {l : List Nat} (hl : ∀ b ∈ l, 33 ≤ b ∧ b ≠ x) :
    ∀ c ∈ chunks w l, Graphic c ∧ c.head? ≠ some x :=
  fun c hc => ⟨graphic_chunks (fun b hb => (hl b hb).1) c hc,
    fun e => (hl x (chunks_subset hc x (List.mem_of_mem_head? e))).2 rfl⟩

/-! ## FASTA -/

theorem fastaBody_lines {cs cs' rest' : List (List Nat)} (ht : Terms cs cs')
    (hc : ∀ c ∈ cs, Graphic c ∧ c.head? ≠ some 62) (hr : ∀ l ∈ rest'.head?, l.head? = some 62) :
    fastaBody (cs' ++ rest') = (cs.flatten, rest') := by
  induction ht with
  | nil =>
    cases rest' with
    | nil => rfl
    | cons l ls => simp [fastaBody, hr l rfl]
  | @cons c c' cs cs' h1 _ ih =>
    have ⟨hg, hx⟩ := hc c (by simp)
    have ⟨hh, htrim⟩ := hg.term h1
    simp only [List.cons_append, fastaBody, hh, hx, if_false, ih fun x h => hc x (by simp [h]), htrim,
      List.flatten_cons]

theorem fastaLines_ok (cfg : SerCfg) {r : SrcRec} (hh : HeaderOk r) (hs : ∀ b ∈ r.seq, 33 ≤ b ∧ b ≠ 62) :
    ∀ l ∈ fastaLines cfg r, NoNL l ∧ l ≠ [] := by
  intro l hl
  rcases List.mem_cons.1 hl with rfl | hl
  · exact headerLine_ok (by decide) hh
  · exact (seqLines_chunks hs l hl).1.ok

/-- the second claim is what makes `fastaBody` stop at the end of the record before -/
theorem fastaRecords_lines (cfg : SerCfg) (recs : List SrcRec)
    (hok : ∀ r ∈ recs, HeaderOk r ∧ ∀ b ∈ r.seq, 33 ≤ b ∧ b ≠ 62) :
    ∀ ls', Terms (recs.flatMap (fastaLines cfg)) ls' →
      fastaRecords ls' = (recs.map toRaw, ParseStatus.done) ∧ ∀ l ∈ ls'.head?, l.head? = some 62 := by
  induction recs with
  | nil =>
    intro ls' h
    cases h
    exact ⟨by rw [fastaRecords]; rfl, nofun⟩
  | cons r rs ih =>
    intro ls' h
    obtain ⟨hh, hs⟩ := hok r (by simp)
    rw [List.flatMap_cons] at h
    obtain ⟨_, rest', rfl, ha, hrest⟩ := Terms.append_inv h
    obtain ⟨h', cs', rfl, hhead, hcs⟩ := Terms.cons_inv ha
    obtain ⟨hh1, hh2⟩ := header_parse 62 isWs (by decide) (fun b hb => isWs_false_of_ge hb) hh hhead
    obtain ⟨ih1, ih2⟩ := ih (fun x hx => hok x (by simp [hx])) rest' hrest
    have hbody := fastaBody_lines hcs (seqLines_chunks hs) ih2
    rw [chunks_flatten] at hbody
    refine ⟨?_, fun l hl => Option.mem_some.1 hl ▸ hh1⟩
    rw [List.cons_append, fastaRecords]
    simp only [hh1, hh2, hbody, ih1, hh.id_ne, ne_eq, not_true_eq_false, if_false, List.isEmpty_iff,
      false_and]
    rfl

/-! ## FASTQ -/

theorem fastqSeqLines_lines {cs cs' : List (List Nat)} {plus' : List Nat} (rest : List (List Nat))
    (ht : Terms cs cs') (hc : ∀ c ∈ cs, Graphic c ∧ c.head? ≠ some 43) (hp : plus'.head? = some 43) :
    fastqSeqLines (cs' ++ plus' :: rest) = (cs.flatten, cs.length, rest) := by
  induction ht with
  | nil => simp [fastqSeqLines, hp]
  | @cons c c' cs cs' h1 _ ih =>
    have ⟨hg, hx⟩ := hc c (by simp)
    have ⟨hh, htrim⟩ := hg.term h1
    simp only [List.cons_append, fastqSeqLines, hh, hx, if_false, ih fun x h => hc x (by simp [h]), htrim,
      List.flatten_cons, List.length_cons]

theorem fastqQualLines_lines {cs cs' : List (List Nat)} (rest' : List (List Nat)) (ht : Terms cs cs')
    (hc : ∀ c ∈ cs, Graphic c) :
    fastqQualLines cs.length (cs' ++ rest') = (cs.flatten, rest') := by
  induction ht with
  | nil => simp [fastqQualLines]
  | @cons c c' cs cs' h1 _ ih =>
    have htrim := ((hc c (by simp)).term h1).2
    have ih' := ih fun x h => hc x (by simp [h])
    simp only [List.cons_append, List.length_cons, fastqQualLines, ih', htrim, List.flatten_cons]

theorem fastqLines_eq (cfg : SerCfg) (r : SrcRec) :
    fastqLines cfg r = headerLine 64 r :: (chunks cfg.wrap r.seq ++ [43] :: chunks cfg.wrap r.qual) := by
  simp [fastqLines]

theorem fastqLines_ok (cfg : SerCfg) {r : SrcRec} (ok : FastqOk r) :
    ∀ l ∈ fastqLines cfg r, NoNL l ∧ l ≠ [] := by
  intro l hl
  rw [fastqLines_eq, List.mem_cons, List.mem_append, List.mem_cons] at hl
  rcases hl with rfl | hl | rfl | hl
  · exact headerLine_ok (by decide) ok.header
  · exact (seqLines_chunks ok.seq_ok l hl).1.ok
  · exact Graphic.ok ⟨List.cons_ne_nil _ _, by decide⟩
  · exact (graphic_chunks ok.qual_ok l hl).ok

theorem fastqRecords_lines (cfg : SerCfg) (recs : List SrcRec) (hok : ∀ r ∈ recs, FastqOk r) :
    ∀ ls', Terms (recs.flatMap (fastqLines cfg)) ls' → fastqRecords ls' = (recs.map toRaw, ParseStatus.done) := by
  induction recs with
  | nil =>
    intro ls' h
    cases h
    rw [fastqRecords]
    rfl
  | cons r rs ih =>
    intro ls' h
    have ok := hok r (by simp)
    rw [List.flatMap_cons, fastqLines_eq] at h
    obtain ⟨_, rest', rfl, ha, hrest⟩ := Terms.append_inv h
    obtain ⟨h', _, rfl, hhead, hb⟩ := Terms.cons_inv ha
    obtain ⟨scs', _, rfl, hscs, hc⟩ := Terms.append_inv hb
    obtain ⟨plus', qcs', rfl, hplus, hqcs⟩ := Terms.cons_inv hc
    obtain ⟨hh1, hh2⟩ := header_parse 64 (· == 32) (by decide)
      (fun b hb => by simp only [beq_eq_false_iff_ne]; omega) ok.header hhead
    have hseq := fastqSeqLines_lines (qcs' ++ rest') hscs (seqLines_chunks ok.seq_ok) hplus.head?
    have hqual := fastqQualLines_lines rest' hqcs (graphic_chunks ok.qual_ok)
    rw [chunks_flatten] at hseq
    rw [chunks_flatten, chunks_length_congr cfg.wrap r.qual r.seq ok.qual_len] at hqual
    have hq : r.qual ≠ [] := fun e =>
      ok.seq_ne (List.eq_nil_of_length_eq_zero (by rw [← ok.qual_len, e]; rfl))
    -- the lines as `h' :: (scs' ++ plus' :: (qcs' ++ rest'))`, the form `hseq` speaks of
    rw [List.cons_append, List.append_assoc, List.cons_append, fastqRecords]
    simp only [hh1, hh2, hseq, hqual, hq, ih (fun x hx => hok x (by simp [hx])) rest' hrest, ne_eq,
      not_true_eq_false, if_false, List.isEmpty_iff]
    rfl

end KT.Fa
