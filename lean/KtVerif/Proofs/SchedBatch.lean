import KtVerif.Model.Sched
/-!
# The batched writer loop
-/
namespace KT.Sch
open KT

theorem batchLoopAux_flatten {α : Type} (limit : Nat) (len : α → Nat) (recs : List α)
    (buf : List α) (total : Nat) :
    (batchLoopAux limit len buf total recs).flatten = buf ++ recs := by
  induction recs generalizing buf total with
  | nil =>
    unfold batchLoopAux
    cases buf <;> simp
  | cons r rs ih =>
    unfold batchLoopAux
    simp only
    split
    · rw [List.flatten_cons, ih]; simp
    · rw [ih]; simp

theorem batchLoopAux_nonempty {α : Type} (limit : Nat) (len : α → Nat) (recs : List α)
    (buf : List α) (total : Nat) :
    ∀ b ∈ batchLoopAux limit len buf total recs, b ≠ [] := by
  induction recs generalizing buf total with
  | nil =>
    unfold batchLoopAux
    cases buf <;> simp
  | cons r rs ih =>
    unfold batchLoopAux
    simp only
    split
    · intro b hb
      rcases List.mem_cons.mp hb with h | h
      · subst h; simp
      · exact ih _ _ b h
    · exact ih _ _

theorem flatten_map_flatten {α β : Type} (f : α → List β) (bs : List (List α)) :
    (bs.map fun b => (b.map f).flatten).flatten = (bs.flatten.map f).flatten := by
  rw [List.map_flatten, List.flatten_flatten, List.map_map]
  rfl

end KT.Sch
