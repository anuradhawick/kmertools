import KtVerif.Proofs.MinimiserSim
/-!
# C18 (a): the k-mer-reporting minimiser iterator is the plain one with a ledger attached

`KMG.step` is `MG.step` on the projected state (`proj`), run beside a `KmerGenerator`-like
register triple at width `w` (`kroll`); the list `kbuff` of w-mers seen since the last run leaves
with the next run (`attach`).  The k-fields never influence a branch condition, so this holds for
every state and all parameters (`kstep_clean`; `kstep_amb` resets both alike).
-/
namespace KT.KMin
open KT KT.Min

abbrev proj (s : KMG) : MG :=
  ⟨s.mValF, s.mValR, s.mValL, s.active, s.start, s.buff, s.buffPos⟩

def projRun (r : KRun) : Run := (r.1, r.2.1, r.2.2.1)

/-- a state of the plain iterator with the w-mer registers of `k` and the pending list `kb` -/
def join (t : MG) (k : KMG) (kb : List Nat) : KMG :=
  ⟨t.mValF, t.mValR, t.mValL, k.kValF, k.kValR, k.kValL, t.active, t.start, t.buff, t.buffPos, kb⟩

/-- a step of the plain iterator beside the k-mer side `k`: the pending list leaves with the run,
    if one is emitted -/
def attach (t : MG × Option Run) (k : KMG) : KMG × Option KRun :=
  match t with
  | (t', some r) => (join t' k [], some (r.1, r.2.1, r.2.2, k.kbuff.reverse))
  | (t', none) => (join t' k k.kbuff, none)

def outK : Option KRun → List Nat
  | some r => r.2.2.2
  | none => []

theorem attach_ite (c : Prop) [Decidable c] (x y : MG × Option Run) (k : KMG) :
    attach (if c then x else y) k = if c then attach x k else attach y k := by
  split <;> rfl

theorem attach_some (t : MG) (r : Run) (k : KMG) :
    attach (t, some r) k = (join t k [], some (r.1, r.2.1, r.2.2, k.kbuff.reverse)) := rfl

theorem attach_none (t : MG) (k : KMG) : attach (t, none) k = (join t k k.kbuff, none) := rfl

theorem proj_attach (t : MG × Option Run) (k : KMG) :
    (proj (attach t k).1, (attach t k).2.map projRun) = t := by
  rcases t with ⟨t', _ | r⟩ <;> rfl

/-- nothing pending is lost, nothing is added -/
theorem attach_ledger (t : MG × Option Run) (k : KMG) :
    outK (attach t k).2 ++ (attach t k).1.kbuff.reverse = k.kbuff.reverse := by
  rcases t with ⟨t', _ | r⟩
  · rfl
  · exact List.append_nil _

theorem firstScan_join (cap : Nat) (s : KMG) :
    KMG.firstScan cap s = join (MG.firstScan cap (proj s)) s s.kbuff := by
  unfold KMG.firstScan MG.firstScan
  by_cases h : s.active = U64MAX ∧ s.buff.length = cap
  · rw [if_pos h, if_pos h]; rfl
  · rw [if_neg h, if_neg h]; rfl

/-- the k-mer side of `KMG.step` on a clean byte: the w-registers roll; once the buffer phase is
    reached, a full w-register means a w-mer, and its canonical code joins the pending list -/
def kroll (w m : Nat) (s : KMG) (b : Nat) : KMG :=
  if ¬ s.mValL + 1 < m ∧ s.kValL + 1 = w then
    { s with kValF := rollF w s.kValF b, kValR := rollR w s.kValR b, kValL := s.kValL + 1 - 1,
             kbuff := min (rollF w s.kValF b) (rollR w s.kValR b) :: s.kbuff }
  else { s with kValF := rollF w s.kValF b, kValR := rollR w s.kValR b, kValL := s.kValL + 1 }

section
variable {w m pos : Nat} {s : KMG} {b : Nat}

theorem kstep_clean (hv : nt4 b < 4) :
    KMG.step w m pos s b = attach (MG.step w m pos (proj s) b) (kroll w m s b) := by
  unfold KMG.step MG.step kroll rollF rollR
  by_cases hl : s.mValL + 1 < m
  · simp only [hv, hl, not_true_eq_false, false_and, ↓reduceIte, attach_none]
    rfl
  · -- the same tests in the same order on both sides, whether or not a w-mer is pushed: `attach`
    -- goes through them (`attach_ite`) and is evaluated at the leaves
    by_cases hk : s.kValL + 1 = w <;>
      simp only [hv, hl, hk, not_false_eq_true, and_self, and_false, ↓reduceIte, firstScan_join,
        attach_ite, attach_some, attach_none] <;>
      rfl

theorem kstep_amb (hv : ¬ nt4 b < 4) :
    KMG.step w m pos s b =
      (⟨0, 0, 0, 0, 0, 0, U64MAX, pos + 1, [], 0, []⟩,
       if s.buff.length = w - m + 1 then some (s.active, s.start, pos, s.kbuff.reverse) else none) := by
  unfold KMG.step
  simp only [hv, ↓reduceIte]

end

theorem proj_step (w m pos : Nat) (s : KMG) (b : Nat) :
    MG.step w m pos (proj s) b =
      (proj (KMG.step w m pos s b).1, (KMG.step w m pos s b).2.map projRun) := by
  by_cases hv : nt4 b < 4
  · rw [kstep_clean hv, proj_attach]
  · rw [kstep_amb hv, step_amb _ _ _ _ hv]
    split <;> rfl

theorem proj_run (w m n : Nat) (bs : List Nat) :
    ∀ (pos : Nat) (s : KMG), (KMG.run w m n pos s bs).map projRun = MG.run w m n pos (proj s) bs := by
  induction bs with
  | nil =>
    intro pos s
    rw [KMG.run, MG.run, KMG.finish, MG.finish]
    by_cases h : s.active ≠ U64MAX
    · rw [if_pos h, if_pos h]; rfl
    · rw [if_neg h, if_neg h]; rfl
  | cons b bs ih =>
    intro pos s
    rw [KMG.run, MG.run, proj_step]
    rcases KMG.step w m pos s b with ⟨s', _ | r⟩
    · exact ih _ _
    · exact congrArg (projRun r :: ·) (ih _ _)

end KT.KMin
