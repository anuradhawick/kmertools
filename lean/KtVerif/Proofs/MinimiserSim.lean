import KtVerif.Proofs.MinimiserWindow
/-!
# Simulation: `MG.run` computes the naive run machine

A clean byte is processed in two phases: the registers roll (`rollF`, `rollR`), then the ring buffer
and the open run are updated (`ctl`).  `ctl` is specified once, without reference to DNA: after it the
pair `(active, buffPos)` is the leftmost minimum of the new buffer, and a run is emitted exactly
when that minimum differs from the old one (`ctl_full`).  This is the `some, some` case of `nstep`.
-/
namespace KT.Min
open KT

/-- `m_active = u64::MAX` means that no run is open -/
def cur (active start : Nat) : Cur := if active = U64MAX then none else some (active, start)

theorem cur_of_none {a st : Nat} (h : a = U64MAX) : cur a st = none := if_pos h

theorem cur_of_some {a st : Nat} (h : a ≠ U64MAX) : cur a st = some (a, st) := if_neg h

/-! ## the step function in two phases -/

/-- `m_val_f` (at `k = m`) and `k_val_f` (at `k = w`) take the byte `b` -/
def rollF (k f b : Nat) : Nat := (shl64 f 2 ||| nt4 b) &&& maskOf k

/-- likewise `m_val_r`, `k_val_r` -/
def rollR (k r b : Nat) : Nat := (r >>> 2) ||| shl64 (nt4 b ^^^ 3) (shiftOf k)

/-- buffer phase of `MG.step` on a clean byte: `s` has the new registers, `mv` is pushed -/
def ctl (w m pos : Nat) (s : MG) (mv : Nat) : MG × Option Run :=
  if s.buff.length = w - m + 1 then
    if s.buffPos = 0 then
      if (scanMin U64MAX s.buffPos 0 (s.buff.tail ++ [mv])).1 ≠ s.active then
        ({ s with buff := s.buff.tail ++ [mv],
                  buffPos := (scanMin U64MAX s.buffPos 0 (s.buff.tail ++ [mv])).2,
                  active := (scanMin U64MAX s.buffPos 0 (s.buff.tail ++ [mv])).1,
                  start := pos - w + 1 },
         some (s.active, s.start, pos))
      else
        (MG.firstScan (w - m + 1)
          { s with buff := s.buff.tail ++ [mv],
                   buffPos := (scanMin U64MAX s.buffPos 0 (s.buff.tail ++ [mv])).2 }, none)
    else if mv < s.active then
      ({ s with buff := s.buff.tail ++ [mv], active := mv,
                buffPos := (s.buff.tail ++ [mv]).length - 1, start := pos - w + 1 },
       some (s.active, s.start, pos))
    else
      (MG.firstScan (w - m + 1) { s with buff := s.buff.tail ++ [mv], buffPos := s.buffPos - 1 },
       none)
  else
    (MG.firstScan (w - m + 1) { s with buff := s.buff ++ [mv] }, none)

theorem step_clean (w m pos : Nat) (s : MG) {b : Nat} (hb : nt4 b < 4) :
    MG.step w m pos s b =
      if s.mValL + 1 < m then
        ({ s with mValF := rollF m s.mValF b, mValR := rollR m s.mValR b, mValL := s.mValL + 1 }, none)
      else
        ctl w m pos
          { s with mValF := rollF m s.mValF b, mValR := rollR m s.mValR b, mValL := s.mValL + 1 - 1 }
          (min (rollF m s.mValF b) (rollR m s.mValR b)) := by
  unfold MG.step ctl rollF rollR
  simp only [hb, ↓reduceIte]

theorem step_amb (w m pos : Nat) (s : MG) {b : Nat} (hb : ¬ nt4 b < 4) :
    MG.step w m pos s b =
      (⟨0, 0, 0, U64MAX, pos + 1, [], 0⟩,
       if s.buff.length = w - m + 1 then some (s.active, s.start, pos) else none) := by
  unfold MG.step
  simp only [hb, ↓reduceIte]

/-! ## the buffer phase, specified -/

theorem firstScan_noop {cap : Nat} {s : MG} (h : s.active ≠ U64MAX ∨ s.buff.length ≠ cap) :
    MG.firstScan cap s = s :=
  if_neg fun hc => h.elim (· hc.1) (· hc.2)

section
variable {w m pos : Nat} {s : MG} {mv : Nat}

theorem ctl_short (hn : s.buff.length ≠ w - m + 1) (h : (s.buff ++ [mv]).length ≠ w - m + 1) :
    ctl w m pos s mv = ({ s with buff := s.buff ++ [mv] }, none) := by
  rw [ctl, if_neg hn, firstScan_noop]
  exact Or.inr h

/-- the push fills the buffer: the scan under "first time we are experiencing all minimizers"
    opens the first run of this clean stretch -/
theorem ctl_fill (hn : s.buff.length ≠ w - m + 1) (h : (s.buff ++ [mv]).length = w - m + 1)
    (ha : s.active = U64MAX) (hmax : ∀ x ∈ s.buff ++ [mv], x < U64MAX) :
    ∃ a bp, IsLeftMin (s.buff ++ [mv]) a bp ∧
      ctl w m pos s mv = ({ s with buff := s.buff ++ [mv], active := a, buffPos := bp }, none) := by
  refine ⟨_, _, scanMin_leftMin (s.buff ++ [mv]) s.active s.buffPos
    (List.concat_ne_nil _ _) (ha ▸ hmax), ?_⟩
  rw [ctl, if_neg hn, MG.firstScan, if_pos ⟨ha, h⟩]

theorem ctl_full (h : s.buff.length = w - m + 1) (ha : s.active ≠ U64MAX)
    (hlm : IsLeftMin s.buff s.active s.buffPos) (hmax : ∀ x ∈ s.buff.tail ++ [mv], x < U64MAX) :
    ∃ a bp, IsLeftMin (s.buff.tail ++ [mv]) a bp ∧
      ctl w m pos s mv =
        if a = s.active then ({ s with buff := s.buff.tail ++ [mv], buffPos := bp }, none)
        else ({ s with buff := s.buff.tail ++ [mv], buffPos := bp, active := a,
                       start := pos - w + 1 }, some (s.active, s.start, pos)) := by
  rw [ctl, if_pos h]
  by_cases hbp : s.buffPos = 0
  · -- the minimum leaves the buffer: rescan
    refine ⟨_, _, scanMin_leftMin (s.buff.tail ++ [mv]) U64MAX s.buffPos
      (List.concat_ne_nil _ _) hmax, ?_⟩
    rw [if_pos hbp]
    by_cases hne : (scanMin U64MAX s.buffPos 0 (s.buff.tail ++ [mv])).1 = s.active
    · rw [if_neg (not_not_intro hne), if_pos hne, firstScan_noop]
      exact Or.inl ha
    · rw [if_pos hne, if_neg hne]
  · rw [if_neg hbp]
    by_cases hlt : mv < s.active
    · refine ⟨mv, (s.buff.tail ++ [mv]).length - 1, ?_, ?_⟩
      · rw [List.length_append, List.length_tail]
        exact slide_new hlm hlt
      · rw [if_pos hlt, if_neg (Nat.ne_of_lt hlt)]
    · refine ⟨s.active, _, slide_keep hlm (Nat.pos_of_ne_zero hbp) (Nat.le_of_not_lt hlt), ?_⟩
      rw [if_neg hlt, if_pos rfl, firstScan_noop]
      exact Or.inl ha

end

/-! ## the invariant -/

structure Regs (k : Nat) (q : List Nat) (f r l : Nat) : Prop where
  hF : f = regF k q
  hR : r = regR k q
  hL : l = min q.length (k - 1)

theorem Regs.nil (k : Nat) : Regs k [] 0 0 0 :=
  ⟨(regF_nil k).symm, (regR_nil k).symm, (Nat.zero_min _).symm⟩

/-- the new counter is given in closed form; the callers bring the model's `l + 1` and `l + 1 - 1`
    into it with `satCount` -/
theorem Regs.roll {k : Nat} {q : List Nat} {f r l b : Nat} (hk1 : 1 ≤ k) (hk : k ≤ 31)
    (h : Regs k q f r l) (hb : nt4 b < 4) :
    Regs k (q ++ [b]) (rollF k f b) (rollR k r b) (min (q.length + 1) (k - 1)) := by
  obtain ⟨hf, hr⟩ := regs_roll hk1 hk q hb
  exact ⟨h.hF ▸ hf, h.hR ▸ hr, List.length_append ▸ rfl⟩

theorem lastN_codes_of_short {m : Nat} {q : List Nat} (n : Nat) (h : q.length < m) :
    lastN n (codes m q) = [] := by
  rw [codes_of_short h]
  exact lastN_of_le (Nat.zero_le _)

theorem lastN_codes_full_iff {w m : Nat} (hmw : m ≤ w) (q : List Nat) :
    (lastN (w - m + 1) (codes m q)).length = w - m + 1 ↔ w ≤ q.length := by
  have hle : w - m + 1 ≤ q.length + 1 - m ↔ w ≤ q.length :=
    (Nat.sub_lt_sub_iff_right hmw).trans Nat.lt_succ_iff
  rw [lastN_length, codes_length, ← hle]
  exact ⟨fun e => e ▸ Nat.min_le_right _ _, Nat.min_eq_left⟩

/-- ring buffer and open run after `n` bytes whose maximal clean suffix is `q`.  The start of an open
    run is not constrained here: it is followed through `cur` in `Good`. -/
structure Ctl (w m n : Nat) (q : List Nat) (st : MG) : Prop where
  hB : st.buff = lastN (w - m + 1) (codes m q)
  short : q.length < w → st.active = U64MAX ∧ st.start = n - q.length
  full : w ≤ q.length → st.active ≠ U64MAX ∧ IsLeftMin st.buff st.active st.buffPos

section
variable {w m n : Nat} {q : List Nat} {st : MG}

theorem Ctl.ofShort (hB : st.buff = lastN (w - m + 1) (codes m q)) (hw : q.length < w)
    (ha : st.active = U64MAX) (hst : st.start = n - q.length) : Ctl w m n q st :=
  ⟨hB, fun _ => ⟨ha, hst⟩, fun h => absurd h (Nat.not_le_of_lt hw)⟩

theorem Ctl.ofFull (hB : st.buff = lastN (w - m + 1) (codes m q)) (hw : w ≤ q.length)
    (ha : st.active ≠ U64MAX) (hlm : IsLeftMin st.buff st.active st.buffPos) : Ctl w m n q st :=
  ⟨hB, fun h => absurd hw (Nat.not_le_of_lt h), fun _ => ⟨ha, hlm⟩⟩

theorem Ctl.buff_full_iff (hmw : m ≤ w) (h : Ctl w m n q st) :
    st.buff.length = w - m + 1 ↔ w ≤ q.length := by
  rw [h.hB]
  exact lastN_codes_full_iff hmw q

end

structure InvQ (w m n : Nat) (q : List Nat) (st : MG) : Prop
    extends Regs m q st.mValF st.mValR st.mValL, Ctl w m n q st

/-- the state after an ambiguous byte, and the initial state -/
theorem InvQ.reset {w m : Nat} (hm1 : 1 ≤ m) (hmw : m ≤ w) (n : Nat) :
    InvQ w m n [] ⟨0, 0, 0, U64MAX, n, [], 0⟩ :=
  ⟨Regs.nil m, .ofShort (lastN_codes_of_short _ hm1).symm (Nat.lt_of_lt_of_le hm1 hmw) rfl rfl⟩

/-- what a step from `st` to `res` has to achieve.  `res` comes first so that it is unified first
    when `good_ctl` is applied, where the two states differ in their registers. -/
def Good (w m n : Nat) (q' : List Nat) (res : MG × Option Run) (st : MG) : Prop :=
  InvQ w m (n + 1) q' res.1 ∧
    nstep w n (cur st.active st.start) (pmQ w m q') = (cur res.1.active res.1.start, res.2)

/-! ## one step -/

section
variable {w m n : Nat} {q : List Nat} {b : Nat}

theorem good_amb {st : MG} (hm1 : 1 ≤ m) (hmw : m ≤ w) (h : InvQ w m n q st) (hb : ¬ nt4 b < 4) :
    Good w m n [] (MG.step w m n st b) st := by
  have hw : ([] : List Nat).length < w := Nat.lt_of_lt_of_le hm1 hmw
  rw [step_amb w m n st hb]
  refine ⟨InvQ.reset hm1 hmw (n + 1), ?_⟩
  rw [pmQ_short hw]
  by_cases hc : w ≤ q.length
  · rw [cur_of_some (h.full hc).1, if_pos ((h.buff_full_iff hmw).2 hc)]; rfl
  · rw [cur_of_none (h.short (Nat.lt_of_not_le hc)).1, if_neg (mt (h.buff_full_iff hmw).1 hc)]; rfl

/-- `s` already holds the registers of `q ++ [b]`, buffer and open run are still those of `q` -/
theorem good_ctl {s : MG} (hmw : m ≤ w) (hm : m ≤ 31)
    (hr : Regs m (q ++ [b]) s.mValF s.mValR s.mValL) (h : Ctl w m n q s)
    (hqn : q.length ≤ n) (hq' : ∀ x ∈ q ++ [b], clean x = true) (hc : m ≤ q.length + 1) :
    Good w m n (q ++ [b]) (ctl w m n s (min s.mValF s.mValR)) s := by
  have hql : (q ++ [b]).length = q.length + 1 := List.length_append
  -- the buffer of the result, the same in every branch of `ctl`
  have hB' : lastN (w - m + 1) (codes m (q ++ [b])) =
      (if s.buff.length = w - m + 1 then s.buff.tail else s.buff) ++ [min s.mValF s.mValR] := by
    rw [codes_snoc q b hc, ← min_regs_eq hq' (hql ▸ hc), ← hr.hF, ← hr.hR,
      lastN_push (Nat.succ_pos _), ← h.hB]
  -- a code is below `4 ^ m`, hence below the `u64::MAX` that stands for "no run open"
  have hmax : ∀ x ∈ lastN (w - m + 1) (codes m (q ++ [b])), x < U64MAX := fun x hx =>
    Nat.lt_trans (codes_lt hq' x (mem_lastN hx)) (pow_lt_U64MAX hm)
  rw [hB'] at hmax
  have hfull : s.buff.length = w - m + 1 ↔ w ≤ q.length := h.buff_full_iff hmw
  -- likewise the new buffer, in the form `hB'`, is full iff `w ≤ q.length + 1`
  have hfull' := lastN_codes_full_iff hmw (q ++ [b])
  rw [hB', hql] at hfull'
  by_cases hw : w ≤ q.length
  · -- a window was already complete
    have hw' : w ≤ (q ++ [b]).length := hql ▸ Nat.le_succ_of_le hw
    obtain ⟨ha, hlm⟩ := h.full hw
    rw [if_pos (hfull.2 hw)] at hB' hmax
    obtain ⟨a, bp, hlm', e⟩ := ctl_full (w := w) (m := m) (pos := n) (hfull.2 hw) ha hlm hmax
    have ha' : a ≠ U64MAX := Nat.ne_of_lt (hmax a hlm'.mem)
    by_cases heq : a = s.active
    · rw [e, if_pos heq]
      refine ⟨⟨hr, .ofFull hB'.symm hw' ha (heq ▸ hlm')⟩, ?_⟩
      rw [pmQ_full hw' (hB' ▸ hlm'), cur_of_some ha, nstep, if_pos heq]
    · rw [e, if_neg heq]
      refine ⟨⟨hr, .ofFull hB'.symm hw' ha' hlm'⟩, ?_⟩
      -- the new start `pos - w + 1` of the code is `nstep`'s `pos + 1 - w`, as `w ≤ n`
      rw [pmQ_full hw' (hB' ▸ hlm'), cur_of_some ha, cur_of_some ha', nstep, if_neg heq,
        Nat.sub_add_comm (Nat.le_trans hw hqn)]
  · have hlen := mt hfull.1 hw
    obtain ⟨ha, hst⟩ := h.short (Nat.lt_of_not_le hw)
    have hst' : s.start = n + 1 - (q ++ [b]).length := by rw [hst, hql, Nat.add_sub_add_right]
    rw [if_neg hlen] at hB' hmax hfull'
    by_cases hw' : w ≤ q.length + 1
    · -- the first window of this clean stretch is complete
      obtain ⟨a, bp, hlm', e⟩ := ctl_fill (w := w) (m := m) (pos := n) hlen (hfull'.2 hw') ha hmax
      have ha' : a ≠ U64MAX := Nat.ne_of_lt (hmax a hlm'.mem)
      rw [e]
      refine ⟨⟨hr, .ofFull hB'.symm (hql ▸ hw') ha' hlm'⟩, ?_⟩
      -- `start` is not written here: it has pointed to the first byte of the clean stretch since
      -- the reset, and that is `nstep`'s `pos + 1 - w` because `w = q.length + 1`
      rw [pmQ_full (hql ▸ hw') (hB' ▸ hlm'), cur_of_none ha, cur_of_some ha', nstep, hst', hql,
        Nat.le_antisymm hw' (Nat.lt_of_not_le hw)]
    · have hlt : (q ++ [b]).length < w := hql ▸ Nat.lt_of_not_le hw'
      rw [ctl_short hlen (mt hfull'.1 hw')]
      refine ⟨⟨hr, .ofShort hB'.symm hlt ha hst'⟩, ?_⟩
      rw [pmQ_short hlt, cur_of_none ha]; rfl

theorem good_clean {st : MG} (hm1 : 1 ≤ m) (hmw : m ≤ w) (hm : m ≤ 31) (h : InvQ w m n q st)
    (hqn : q.length ≤ n) (hq' : ∀ x ∈ q ++ [b], clean x = true) (hb : nt4 b < 4) :
    Good w m n (q ++ [b]) (MG.step w m n st b) st := by
  have hql : (q ++ [b]).length = q.length + 1 := List.length_append
  obtain ⟨hlt, -, hL1, hL2⟩ := satCount hm1 q.length
  have hr := h.toRegs.roll hm1 hm hb
  rw [step_clean w m n st hb, h.hL]
  by_cases hc : q.length + 1 < m
  · -- fewer than `m` clean bytes: only the registers move
    have hw1 : q.length + 1 < w := Nat.lt_of_lt_of_le hc hmw
    have hw : (q ++ [b]).length < w := hql ▸ hw1
    obtain ⟨ha, hst⟩ := h.short (Nat.lt_of_succ_lt hw1)
    rw [if_pos (hlt.2 hc), hL1 hc]
    refine ⟨⟨hr, .ofShort (h.hB.trans ?_) hw ha (hst.trans ?_)⟩, ?_⟩
    · rw [lastN_codes_of_short _ (Nat.lt_of_succ_lt hc), lastN_codes_of_short _ (hql ▸ hc)]
    · rw [hql, Nat.add_sub_add_right]
    · rw [pmQ_short hw, cur_of_none ha]; rfl
  · rw [if_neg (mt hlt.1 hc), hL2 (Nat.le_of_not_lt hc)]
    -- `Ctl` does not read the registers, so its fields carry over to the state with the rolled ones
    exact good_ctl hmw hm hr ⟨h.hB, h.short, h.full⟩ hqn hq' (Nat.le_of_not_lt hc)

end

theorem step_good {w m : Nat} (hm1 : 1 ≤ m) (hmw : m ≤ w) (hm : m ≤ 31) (p : List Nat) (st : MG)
    (h : InvQ w m p.length (cleanSuffix p) st) (b : Nat) :
    Good w m p.length (cleanSuffix (p ++ [b])) (MG.step w m p.length st b) st := by
  by_cases hb : nt4 b < 4
  · have hq' := cleanSuffix_clean (p ++ [b])
    rw [cleanSuffix_snoc_clean p (decide_eq_true hb)] at hq' ⊢
    exact good_clean hm1 hmw hm h (cleanSuffix_length_le p) hq' hb
  · rw [cleanSuffix_snoc_amb p (decide_eq_false hb)]
    exact good_amb hm1 hmw h hb

theorem run_eq_naive {w m : Nat} (hm1 : 1 ≤ m) (hmw : m ≤ w) (hm : m ≤ 31) (s : List Nat) :
    ∀ (rest p : List Nat) (st : MG), s = p ++ rest → InvQ w m p.length (cleanSuffix p) st →
      MG.run w m s.length p.length st rest
        = naive w s.length p.length (cur st.active st.start)
            ((List.range' p.length rest.length).map (posMin w m s)) := by
  intro rest
  induction rest with
  | nil =>
    intro p st _ _
    rw [MG.run, MG.finish, List.length_nil, List.range'_zero, List.map_nil, naive, cur]
    by_cases ha : st.active = U64MAX
    · rw [if_neg (not_not_intro ha), if_pos ha]; rfl
    · rw [if_pos ha, if_neg ha]; rfl
  | cons b bs ih =>
    intro p st hs hinv
    obtain ⟨hinv', hn⟩ := step_good hm1 hmw hm p st hinv b
    have hlen : (p ++ [b]).length = p.length + 1 := List.length_append
    have ih' := ih (p ++ [b]) (MG.step w m p.length st b).1 (hs.trans (List.append_cons p b bs))
      (hlen ▸ hinv')
    rw [hlen] at ih'
    rw [List.length_cons, List.range'_succ, List.map_cons, MG.run, naive, posMin_eq hmw hs, hn]
    generalize MG.step w m p.length st b = res at ih' ⊢
    rcases res with ⟨st', _ | o⟩
    · exact ih'
    · exact congrArg (o :: ·) ih'

end KT.Min
