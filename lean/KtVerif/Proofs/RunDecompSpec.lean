import KtVerif.Proofs.RunDecomp
import KtVerif.Proofs.KmerSpec
/-!
# `specRuns` through the abstract grouping invariant, instantiated at `g = winMin w m s`
-/
namespace KT.Runs
open KT

theorem winMin_eq_some_iff {w m : Nat} {s : List Nat} {i v : Nat} :
    winMin w m s i = some v ↔ winValid w s i = true ∧ listMin (mmersOfWindow w m s i) = v := by
  rw [winMin]
  split
  · next h => rw [Option.some.injEq, and_iff_right h]
  · next h => exact ⟨nofun, fun e => absurd e.1 h⟩

theorem winMin_none_of_ge {w m : Nat} {s : List Nat} {j : Nat} (h : s.length + 1 - w ≤ j) :
    winMin w m s j = none := by
  have : ¬ j + w ≤ s.length := by omega
  simp [winMin, winValid, this]

theorem winMin_clean {w m : Nat} {s : List Nat} {i v : Nat} (h : winMin w m s i = some v) :
    i + w ≤ s.length ∧ ∀ j, i ≤ j → j < i + w → clean (s.getD j 0) = true := by
  have hv : winValid w s i = true := (winMin_eq_some_iff.1 h).1
  simp only [winValid, Bool.and_eq_true, decide_eq_true_eq] at hv
  exact ⟨hv.1, (window_all_clean_iff hv.1).1 hv.2⟩

theorem specRuns_good (w m : Nat) (s : List Nat) (hw : 1 ≤ w) :
    Good w (winMin w m s) 0 (specRuns w m s) := by
  rw [specRuns, winMins, List.range_eq_range']
  exact groupRuns_good w hw _ _ 0 none
    (fun j hj => winMin_none_of_ge (by rwa [Nat.zero_add] at hj)) (Or.inl rfl)

theorem isRunDecomposition_iff {w m : Nat} {s : List Nat} {out : List Run} :
    IsRunDecomposition w m s out ↔ Good w (winMin w m s) 0 out := by
  constructor
  · intro h
    exact ⟨fun r hr => ⟨Nat.zero_le _, (h.sound r hr).1, (h.sound r hr).2.2, h.maximal r hr⟩,
      h.sorted, fun j v _ hv => h.cover j v hv⟩
  · intro h
    refine ⟨h.sorted, fun r hr => ?_, fun r hr => (h.ok r hr).2.2.2,
      fun i v hv => h.cover i v (Nat.zero_le _) hv⟩
    obtain ⟨-, hne, hall, -⟩ := h.ok r hr
    -- the last window of the run is valid, hence inside `s`
    have e : r.2.2 - w + w = r.2.2 := Nat.sub_add_cancel (Nat.le_trans (Nat.le_add_left _ _) hne)
    have := (winMin_clean (hall (r.2.2 - w) (Nat.le_sub_of_add_le hne) (Nat.le_of_eq e))).1
    exact ⟨hne, e ▸ this, hall⟩

end KT.Runs
