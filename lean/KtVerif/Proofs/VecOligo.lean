import KtVerif.Model.Vectors
import KtVerif.Proofs.VecAccum
import KtVerif.Props.C01
import KtVerif.Props.C02
import KtVerif.Props.C03
/-!
# Helpers for C04: the column an item is counted in
-/
namespace KT.Vec
open KT

theorem canonPair_mem {k : Nat} {s : List Nat} {p : Nat × Nat} (hp : p ∈ specKmers k s) :
    canonPair p ∈ canonList k := by
  have h1 := (specKmers_lt k s p hp).1
  have h2 := specKmers_snd k s p hp
  unfold canonPair
  rw [h2]
  exact canon_min_mem k p.1 h1

theorem canonList_nodup (k : Nat) : (canonList k).Nodup :=
  (canonList_sorted k).imp (fun h => Nat.ne_of_lt h)

/-- the column the code reaches for an item is the rank of its canonical code -/
theorem posMap_canonPair_iff {k : Nat} (hk : k ≤ 31) {s : List Nat} {p : Nat × Nat} (hp : p ∈ specKmers k s)
    {j : Nat} (hj : j < (canonList k).length) :
    (kmerPosMaps k).posMap[min p.1 p.2]! = j ↔ canonPair p = (canonList k)[j] := by
  obtain ⟨i, hi, hci⟩ := List.getElem_of_mem (canonPair_mem hp)
  have hm : min p.1 p.2 = (canonList k)[i] := hci.symm
  rw [hm, posMap_rank k hk i hi]
  show i = j ↔ min p.1 p.2 = _
  rw [hm]
  exact (List.getElem_inj (canonList_nodup k)).symm

theorem oligoRowSpec_congr {k : Nat} {s t : List Nat} (h : specKmers k s = specKmers k t) :
    oligoRowSpec k s = oligoRowSpec k t := by
  rw [oligoRowSpec_eq_hits, oligoRowSpec_eq_hits, h]

end KT.Vec
