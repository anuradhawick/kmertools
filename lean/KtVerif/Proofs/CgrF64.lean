import KtVerif.Proofs.Cgr
import KtVerif.Proofs.CgrExact
import KtVerif.Proofs.FloatDiv
/-!
# Chaos game in `f64`

One midpoint step `(corner + marker) / 2.0` is two roundings.  It is monotone in the sum (`cgrMid_mono`) and exact whenever
the sum is a double that can still be halved (`cgrMid_exact`); everything else about the walk follows from these two.
While the numerators of the exact walk fit in 53 bits the `f64` walk is its image under `emb` (`trail_stepF_emb`).
-/
namespace KT.Fl
open KT

attribute [local irreducible] f64One  -- see the note in `FloatDiv.lean`

theorem f64One_split {i k : Nat} (h : i + k = 1074) : f64One = 2 ^ i * 2 ^ k := by
  rw [f64One_eq, two_pow_split i k 1074 h]

/-- `X · 1.0 / 2^e` in scaled units -/
theorem mul_f64One_div (X : Nat) {e k : Nat} (h : e + k = 1074) : X * f64One / 2 ^ e = X * 2 ^ k := by
  rw [f64One_split h, Nat.mul_left_comm, Nat.mul_div_cancel_left _ (Nat.two_pow_pos e)]

theorem S_mul_lt (S n : Nat) (h : bitLen S + n ≤ 53) : S * 2 ^ n < 2 ^ 53 :=
  calc S * 2 ^ n < 2 ^ bitLen S * 2 ^ n := Nat.mul_lt_mul_of_pos_right (lt_two_pow_bitLen S) (Nat.two_pow_pos _)
    _ = 2 ^ (bitLen S + n) := (Nat.pow_add ..).symm
    _ ≤ 2 ^ 53 := Nat.pow_le_pow_right (by decide) h

theorem lt_of_bitLen {S : Nat} (h : bitLen S ≤ 53) : S < 2 ^ 53 := (bitLen_le_iff S 53).1 h

/-! ## one midpoint step -/

theorem cgrMid_isF64 (c x : Nat) : IsF64 (cgrMid c x) := roundRat_isF64 _ _

theorem cgrMid_mono {C x C' x' : Nat} (h : C + x ≤ C' + x') : cgrMid C x ≤ cgrMid C' x' :=
  roundRat_mono _ _ 2 (by decide) (roundRat_mono _ _ 1 (by decide) h)

theorem cgrMid_exact {C x m k : Nat} (hm : m < 2 ^ 53) (h : C + x = m * 2 ^ (k + 1)) : cgrMid C x = m * 2 ^ k := by
  unfold cgrMid f64Add f64Half
  rw [h, roundRat_exact_one m (k + 1) hm, roundRat_half_exact m k hm]

theorem cgrMid_le_of_le {C x hi : Nat} (hhi : IsF64 hi) (h : C + x ≤ 2 * hi) : cgrMid C x ≤ hi := by
  obtain ⟨m, j, hm, rfl⟩ := hhi
  rw [Nat.two_mul] at h
  exact Nat.le_trans (cgrMid_mono h) (Nat.le_of_eq (cgrMid_exact hm (by rw [Nat.pow_succ, ← Nat.mul_assoc, Nat.mul_two])))

/-- a step towards a corner of the square `[0, y]²` stays in it (any double `y`) -/
theorem cgrMid_le {y c x : Nat} (hy : IsF64 y) (hc : c ≤ 1) (hx : x ≤ y) : cgrMid (c * y) x ≤ y := by
  have h := Nat.mul_le_mul_right y hc
  rw [Nat.one_mul] at h
  exact cgrMid_le_of_le hy (Nat.two_mul y ▸ Nat.add_le_add h hx)

/-! ## while the numerators fit in 53 bits the walk is the exact walk -/

/-- the point `(X / 2^e, Y / 2^e)` as a pair of scaled doubles -/
def emb (st : Nat × Nat × Nat) : Nat × Nat := (st.1 * f64One / 2 ^ st.2.2, st.2.1 * f64One / 2 ^ st.2.2)

/-- one midpoint step in dyadic units `2^k`, `1.0 = 2^e · 2^(k+1)`, is exact if the new numerator fits in 53 bits -/
theorem cgrMid_dyadic {S c X e k : Nat} (hk : e + (k + 1) = 1074) (hS : S < 2 ^ 53) (hlt : c * S * 2 ^ e + X < 2 ^ 53) :
    cgrMid (c * f64OfNat S) (X * 2 ^ (k + 1)) = (c * S * 2 ^ e + X) * 2 ^ k := by
  apply cgrMid_exact hlt
  rw [f64OfNat_exact S hS, f64One_split hk, Nat.add_mul]
  simp only [Nat.mul_assoc]

theorem stepF_emb (S : Nat) (st : Nat × Nat × Nat) (c : Nat × Nat) (h1 : c.1 ≤ 1) (h2 : c.2 ≤ 1) (h : InSquare S st)
    (hb : bitLen S + st.2.2 + 1 ≤ 53) : stepF S (emb st) c = emb (stepE S st c) := by
  obtain ⟨k, hk⟩ : ∃ k, st.2.2 + (k + 1) = 1074 := ⟨1073 - st.2.2, by omega⟩
  have hS := lt_of_bitLen (Nat.le_trans (Nat.le_add_right _ _) (Nat.le_of_succ_le hb))
  have hlt := S_mul_lt S (st.2.2 + 1) hb
  have hk' : st.2.2 + 1 + k = 1074 := by omega
  simp only [stepF, emb, stepE, mul_f64One_div _ hk, mul_f64One_div _ hk']
  rw [cgrMid_dyadic hk hS (Nat.lt_of_le_of_lt (corner_step_le h1 h.1) hlt),
    cgrMid_dyadic hk hS (Nat.lt_of_le_of_lt (corner_step_le h2 h.2) hlt)]

theorem trail_stepF_emb (S : Nat) (cs : List (Nat × Nat)) : ∀ (st : Nat × Nat × Nat),
    (∀ c ∈ cs, c.1 ≤ 1 ∧ c.2 ≤ 1) → InSquare S st → bitLen S + st.2.2 + cs.length ≤ 53 →
    trail (stepF S) (emb st) cs = (trail (stepE S) st cs).map emb := by
  induction cs with
  | nil => intro st _ _ _; rfl
  | cons c cs ih =>
    intro st hcs hsq hb
    rw [List.length_cons] at hb
    obtain ⟨h1, h2⟩ := hcs c List.mem_cons_self
    rw [trail, trail, List.map_cons, stepF_emb S st c h1 h2 hsq (by omega),
      ih _ (fun d hd => hcs d (List.mem_cons_of_mem _ hd)) (stepE_inSquare S st c h1 h2 hsq)
        (by show bitLen S + (st.2.2 + 1) + cs.length ≤ 53; omega)]

theorem foldl_stepF_emb (S : Nat) (cs : List (Nat × Nat)) (st : Nat × Nat × Nat) (hcs : ∀ c ∈ cs, c.1 ≤ 1 ∧ c.2 ≤ 1)
    (hsq : InSquare S st) (hb : bitLen S + st.2.2 + cs.length ≤ 53) :
    cs.foldl (stepF S) (emb st) = emb (cs.foldl (stepE S) st) := by
  rw [← getLastD_trail, trail_stepF_emb S cs st hcs hsq hb, List.getLastD_map, getLastD_trail]

theorem cgrCentre_exact (S : Nat) (hS : S < 2 ^ 53) : cgrCentre S = emb (S, S, 1) := by
  unfold cgrCentre f64Half emb
  simp only
  rw [f64OfNat_exact S hS, mul_f64One_div S (e := 1) (k := 1073) rfl, f64One_eq]
  exact congrArg (fun v => (v, v)) (roundRat_half_exact S 1073 hS)

/-- (the function mapped over the exact points is `emb`, written out so that the C11 statement need not name it) -/
theorem cgrF64_exact (S : Nat) (s : List Nat) (hbits : bitLen S + s.length + 1 ≤ 53) :
    cgrF64 S s = (cgrExact S s).map fun l => l.map fun p =>
      (p.1 * f64One / 2 ^ p.2.2, p.2.1 * f64One / 2 ^ p.2.2) := by
  rw [cgrF64_eq_walk, cgrExact_eq_walk, cgrCentre_exact S (lt_of_bitLen (by omega))]
  unfold walk
  split
  · rw [Option.map_some, trail_stepF_emb S _ _ (corners_le_one s) (start_inSquare S)
      (by rw [List.length_map]; show bitLen S + 1 + s.length ≤ 53; omega)]
    rfl
  · rfl

/-! ## the square, and every point is a double -/

theorem cgrCentre_le (S : Nat) : (cgrCentre S).1 ≤ f64OfNat S ∧ (cgrCentre S).2 ≤ f64OfNat S := by
  have h : f64Half (f64OfNat S) ≤ f64OfNat S :=
    roundRat_le_of_le (by decide) (roundRat_isF64 _ _) (Nat.le_mul_of_pos_right _ (by decide))
  exact ⟨h, h⟩

/-- the pair lies in `[0, fl(S)]²` -/
def InSquareF (S : Nat) (p : Nat × Nat) : Prop := p.1 ≤ f64OfNat S ∧ p.2 ≤ f64OfNat S

theorem stepF_inSquareF (S : Nat) (p c : Nat × Nat) (h1 : c.1 ≤ 1) (h2 : c.2 ≤ 1) (h : InSquareF S p) :
    InSquareF S (stepF S p c) :=
  ⟨cgrMid_le (roundRat_isF64 _ _) h1 h.1, cgrMid_le (roundRat_isF64 _ _) h2 h.2⟩

theorem cgrF64_in_square (S : Nat) (s : List Nat) (l : List (Nat × Nat)) (h : cgrF64 S s = some l) :
    ∀ p ∈ l, p.1 ≤ f64OfNat S ∧ p.2 ≤ f64OfNat S :=
  walk_forall (stepF S) (stepF_inSquareF S) (cgrCentre_le S) (cgrF64_eq_walk S s ▸ h)

theorem cgrCentre_isF64 (S : Nat) : IsF64 (cgrCentre S).1 ∧ IsF64 (cgrCentre S).2 :=
  ⟨roundRat_isF64 (f64OfNat S) 2, roundRat_isF64 (f64OfNat S) 2⟩

theorem cgrF64_points_isF64 (S : Nat) (s : List Nat) (pts : List (Nat × Nat)) (h : cgrF64 S s = some pts) :
    ∀ p ∈ pts, IsF64 p.1 ∧ IsF64 p.2 :=
  walk_forall (stepF S) (I := fun p => IsF64 p.1 ∧ IsF64 p.2) (fun p _ _ _ _ => ⟨cgrMid_isF64 _ p.1, cgrMid_isF64 _ p.2⟩)
    (cgrCentre_isF64 S) (cgrF64_eq_walk S s ▸ h)

end KT.Fl
