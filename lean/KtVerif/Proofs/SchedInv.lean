import KtVerif.Model.Sched
/-!
# Any-schedule invariant of the generic shared-reader system `GSys`

The one idea, shared with the chunk system of `CountChunk.lean`: the records claimed so far are, as a
multiset, the records whose effect has happened plus the records some worker still holds.  A step
moves one worker, so it changes the "held" part at one position only (`perm_flatMap_set`); what the
worker gives up and claims equals what it commits and keeps (`perm_step`).
-/
namespace KT.Sch
open KT

theorem perm_flatMap_set {α β : Type} (f : α → List β) {ws : List α} {w : Nat} {c : α} (x : α)
    (hw : ws[w]? = some c) : (f c ++ (ws.set w x).flatMap f).Perm (f x ++ ws.flatMap f) := by
  induction ws generalizing w with
  | nil => simp at hw
  | cons a ws ih =>
    cases w with
    | zero =>
      obtain rfl : a = c := by simpa using hw
      simpa using List.perm_append_comm_assoc (f a) (f x) (ws.flatMap f)
    | succ w =>
      have := (ih (by simpa using hw)).append_left (f a)
      simpa using (List.perm_append_comm_assoc (f c) (f a) _).trans
        (this.trans (List.perm_append_comm_assoc (f a) (f x) _))

/-- Conservation: `all` is what has been claimed, `done` what is committed, the workers hold the rest;
    worker `w` goes from `c` to `x`, committing `d` and claiming `t`.  Every step of `GSys` and of
    `CSys` is an instance. -/
theorem perm_step {α β : Type} (f : α → List β) {ws : List α} {w : Nat} {c : α}
    (hw : ws[w]? = some c) {done all : List β} (h : (done ++ ws.flatMap f).Perm all) (x : α)
    (d t : List β) (hc : (f c ++ t).Perm (d ++ f x)) :
    ((done ++ d) ++ (ws.set w x).flatMap f).Perm (all ++ t) := by
  open List in
  -- put what `c` held on both sides; then it is `perm_flatMap_set`, `h` and `hc`
  refine (perm_append_left_iff (f c)).mp ?_
  calc f c ++ (done ++ d ++ (ws.set w x).flatMap f)
    _ ~ done ++ d ++ (f c ++ (ws.set w x).flatMap f) := perm_append_comm_assoc ..
    _ ~ done ++ d ++ (f x ++ ws.flatMap f) := (perm_flatMap_set f x hw).append_left _
    _ = done ++ (d ++ f x ++ ws.flatMap f) := by simp only [append_assoc]
    _ ~ done ++ (ws.flatMap f ++ (d ++ f x)) := perm_append_comm.append_left _
    _ = done ++ ws.flatMap f ++ (d ++ f x) := (append_assoc ..).symm
    _ ~ all ++ (f c ++ t) := h.append hc.symm
    _ ~ f c ++ (all ++ t) := perm_append_comm_assoc ..

theorem flatMap_eq_nil_of_all {α β : Type} [BEq α] [LawfulBEq α] (f : α → List β) (d : α) (hd : f d = [])
    {ws : List α} (h : ws.all (· == d) = true) : ws.flatMap f = [] := by
  rw [List.flatMap_eq_nil_iff]
  intro a ha
  rw [eq_of_beq (List.all_eq_true.mp h a ha), hd]

def held : WState → List Nat
  | .holding n => [n]
  | _ => []

structure Inv {σ : Type} (N T : Nat) (eff : Nat → σ → σ) (sh0 : σ) (s : GSys σ) : Prop where
  len : s.ws.length = T
  next_le : s.next ≤ N
  /-- the records handed out so far are those whose effect has happened and those still held -/
  claimed : (s.order ++ s.ws.flatMap held).Perm (List.range s.next)
  /-- a worker leaves only when the reader is exhausted -/
  done_all : WState.done ∈ s.ws → s.next = N
  sh_eq : s.sh = s.order.foldl (fun a n => eff n a) sh0

theorem inv_init {σ : Type} (N T : Nat) (eff : Nat → σ → σ) (sh0 : σ) :
    Inv N T eff sh0 (GSys.init T sh0) :=
  ⟨List.length_replicate, Nat.zero_le _, by simp [GSys.init, List.flatMap_replicate, held],
    by simp [GSys.init], rfl⟩

theorem inv_step {σ : Type} (N T : Nat) (eff : Nat → σ → σ) (sh0 : σ) (s s' : GSys σ) (st : GStep)
    (h : Inv N T eff sh0 s) (ha : GSys.apply N eff s st = some s') : Inv N T eff sh0 s' := by
  have hlen : ∀ {w x}, (s.ws.set w x).length = T := List.length_set.trans h.len
  have hdone : ∀ {w x}, x ≠ WState.done → WState.done ∈ s.ws.set w x → s.next = N := fun hx hm =>
    h.done_all ((List.mem_or_eq_of_mem_set hm).resolve_right fun e => hx e.symm)
  cases st with
  | take w =>
    simp only [GSys.apply] at ha
    split at ha
    · rename_i hw
      split at ha
      · rename_i hlt
        cases ha
        refine ⟨hlen, hlt, ?_, fun hm => absurd (hdone (by simp) hm) (Nat.ne_of_lt hlt), h.sh_eq⟩
        simpa [List.range_succ] using perm_step held hw h.claimed (.holding s.next) [] [s.next] (.refl _)
      · cases ha
        refine ⟨hlen, h.next_le, ?_, fun _ => Nat.le_antisymm h.next_le (Nat.le_of_not_lt ‹_›), h.sh_eq⟩
        simpa using perm_step held hw h.claimed .done [] [] (.refl _)
    · cases ha
  | act w =>
    simp only [GSys.apply] at ha
    split at ha
    · rename_i n hw
      cases ha
      refine ⟨hlen, h.next_le, ?_, hdone (by simp), by simp [h.sh_eq]⟩
      simpa using perm_step held hw h.claimed .idle [n] [] (.refl _)
    · cases ha

theorem inv_run {σ : Type} (N T : Nat) (eff : Nat → σ → σ) (sh0 : σ) (s s' : GSys σ)
    (sched : List GStep) (h : Inv N T eff sh0 s) (hr : GSys.run N eff s sched = some s') :
    Inv N T eff sh0 s' := by
  induction sched generalizing s with
  | nil => simp [GSys.run] at hr; subst hr; exact h
  | cons st rest ih =>
    simp only [GSys.run] at hr
    split at hr
    · rename_i s1 h1; exact ih s1 (inv_step N T eff sh0 s s1 st h h1) hr
    · cases hr

theorem Inv.terminal {σ : Type} {N T : Nat} {eff : Nat → σ → σ} {sh0 : σ} {s : GSys σ}
    (h : Inv N T eff sh0 s) (hT : 0 < T) (ht : s.terminal = true) : s.order.Perm (List.range N) := by
  obtain ⟨a, ha⟩ := List.exists_mem_of_length_pos (h.len ▸ hT)
  have hN := h.done_all (eq_of_beq (List.all_eq_true.mp ht a ha) ▸ ha)
  have := h.claimed
  rwa [flatMap_eq_nil_of_all held .done rfl ht, List.append_nil, hN] at this

end KT.Sch
