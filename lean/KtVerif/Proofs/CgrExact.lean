import KtVerif.Proofs.Cgr
import Mathlib.Tactic.Ring
/-!
# Exact chaos game: the square and sub-square confinement

The point reached over a suffix `q` of `n` bases is the point before it divided by `2^n`, plus a term that depends on `q` alone
(`foldl_stepE`, on numerators).  So two walks that end in the same `q` end within `S / 2^n` of each other, both points
before `q` lying in the square.
-/
namespace KT.Fl
open KT

/-! ## the square -/

/-- one coordinate of a step: the numerator stays at most `S · 2^e` -/
theorem corner_step_le {c S X e : Nat} (hc : c ≤ 1) (hX : X ≤ S * 2 ^ e) : c * S * 2 ^ e + X ≤ S * 2 ^ (e + 1) := by
  have h : c * S * 2 ^ e ≤ 1 * S * 2 ^ e := Nat.mul_le_mul_right _ (Nat.mul_le_mul_right _ hc)
  rw [Nat.pow_succ, ← Nat.mul_assoc, Nat.mul_two]
  rw [Nat.one_mul] at h
  exact Nat.add_le_add h hX

/-- the point `(X / 2^e, Y / 2^e)` lies in the square `[0, S]²` -/
def InSquare (S : Nat) (st : Nat × Nat × Nat) : Prop := st.1 ≤ S * 2 ^ st.2.2 ∧ st.2.1 ≤ S * 2 ^ st.2.2

theorem stepE_inSquare (S : Nat) (st : Nat × Nat × Nat) (c : Nat × Nat) (h1 : c.1 ≤ 1) (h2 : c.2 ≤ 1)
    (h : InSquare S st) : InSquare S (stepE S st c) :=
  ⟨corner_step_le h1 h.1, corner_step_le h2 h.2⟩

theorem start_inSquare (S : Nat) : InSquare S (S, S, 1) :=
  ⟨Nat.le_mul_of_pos_right S (Nat.two_pow_pos _), Nat.le_mul_of_pos_right S (Nat.two_pow_pos _)⟩

/-! ## sub-squares -/

/-- binary value of a list of corner bits, the first bit least significant -/
def code : List Nat → Nat
  | [] => 0
  | c :: cs => c + 2 * code cs

theorem foldl_stepE (S : Nat) (cs : List (Nat × Nat)) : ∀ (X Y e : Nat),
    cs.foldl (stepE S) (X, Y, e) =
      (X + 2 ^ e * S * code (cs.map Prod.fst), Y + 2 ^ e * S * code (cs.map Prod.snd), e + cs.length) := by
  induction cs with
  | nil => intro X Y e; rfl
  | cons c cs ih =>
    intro X Y e
    rw [List.foldl_cons, stepE, ih]
    simp only [List.map_cons, code, List.length_cons, Nat.pow_succ]
    refine Prod.ext ?_ (Prod.ext ?_ ?_)
    · simp only; ring
    · simp only; ring
    · exact Nat.add_right_comm e 1 cs.length

/-- one coordinate, two walks over a common suffix: the suffix contributes the same amount to both end points, the points
    before it at most `S / 2^n` -/
theorem subsquare_arith (S X0 X0' C e0 e0' n : Nat) (hX : X0 ≤ S * 2 ^ e0) :
    ((X0 + 2 ^ e0 * S * C) * 2 ^ (e0' + n) - (X0' + 2 ^ e0' * S * C) * 2 ^ (e0 + n)) * 2 ^ n
      ≤ S * 2 ^ ((e0 + n) + (e0' + n)) := by
  have hK : 2 ^ e0 * S * C * 2 ^ (e0' + n) = 2 ^ e0' * S * C * 2 ^ (e0 + n) := by ring
  rw [Nat.add_mul, Nat.add_mul, hK, Nat.add_sub_add_right]
  calc _ ≤ X0 * 2 ^ (e0' + n) * 2 ^ n := Nat.mul_le_mul_right _ (Nat.sub_le _ _)
    _ ≤ S * 2 ^ e0 * 2 ^ (e0' + n) * 2 ^ n := Nat.mul_le_mul_right _ (Nat.mul_le_mul_right _ hX)
    _ = S * 2 ^ ((e0 + n) + (e0' + n)) := by ring

/-- the last point of a walk over `p ++ q`: a point of the square after `p`, then the closed form over `q` -/
theorem cgrExact_last (S : Nat) (p q : List Nat) (l : List (Nat × Nat × Nat)) (h : cgrExact S (p ++ q) = some l)
    (hq : q ≠ []) : ∃ X0 Y0 e0, InSquare S (X0, Y0, e0) ∧
      l.getLastD (0, 0, 0) = (X0 + 2 ^ e0 * S * code ((q.map corner).map Prod.fst),
        Y0 + 2 ^ e0 * S * code ((q.map corner).map Prod.snd), e0 + q.length) := by
  rw [cgrExact_eq_walk] at h
  obtain ⟨⟨X0, Y0, e0⟩, hsq, hl⟩ := walk_last_append (stepE S) (stepE_inSquare S) (start_inSquare S) h hq (0, 0, 0)
  rw [foldl_stepE, List.length_map] at hl
  exact ⟨X0, Y0, e0, hsq, hl⟩

theorem cgrExact_subsquare (S : Nat) (p p' q : List Nat) (l l' : List (Nat × Nat × Nat))
    (h : cgrExact S (p ++ q) = some l) (h' : cgrExact S (p' ++ q) = some l') (hq : q ≠ []) :
    let a := l.getLastD (0,0,0); let a' := l'.getLastD (0,0,0)
    (a.1 * 2 ^ a'.2.2 - a'.1 * 2 ^ a.2.2) * 2 ^ q.length ≤ S * 2 ^ (a.2.2 + a'.2.2) ∧
    (a'.1 * 2 ^ a.2.2 - a.1 * 2 ^ a'.2.2) * 2 ^ q.length ≤ S * 2 ^ (a.2.2 + a'.2.2) ∧
    (a.2.1 * 2 ^ a'.2.2 - a'.2.1 * 2 ^ a.2.2) * 2 ^ q.length ≤ S * 2 ^ (a.2.2 + a'.2.2) ∧
    (a'.2.1 * 2 ^ a.2.2 - a.2.1 * 2 ^ a'.2.2) * 2 ^ q.length ≤ S * 2 ^ (a.2.2 + a'.2.2) := by
  obtain ⟨X0, Y0, e0, ⟨hX, hY⟩, ha⟩ := cgrExact_last S p q l h hq
  obtain ⟨X0', Y0', e0', ⟨hX', hY'⟩, ha'⟩ := cgrExact_last S p' q l' h' hq
  intro a a'
  rw [show a = _ from ha, show a' = _ from ha']
  refine ⟨subsquare_arith S X0 X0' _ _ _ _ hX, ?_, subsquare_arith S Y0 Y0' _ _ _ _ hY, ?_⟩
  · rw [Nat.add_comm (e0 + q.length)]
    exact subsquare_arith S X0' X0 _ _ _ _ hX'
  · rw [Nat.add_comm (e0 + q.length)]
    exact subsquare_arith S Y0' Y0 _ _ _ _ hY'

end KT.Fl
