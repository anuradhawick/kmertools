import KtVerif.Proofs.SchedInv
/-!
# The memory-mapped writer: `blit` algebra, commutation of disjoint writes, sequential fold
-/
namespace KT.Sch
open KT

theorem writePos_add_le (hdrLen L : Nat) {i j : Nat} (h : i < j) :
    writePos hdrLen L i + L ≤ writePos hdrLen L j := by
  show L * i + hdrLen + L ≤ L * j + hdrLen
  rw [Nat.add_right_comm]
  exact Nat.add_le_add_right (Nat.mul_le_mul_left L h) hdrLen

theorem writePos_disjoint (hdrLen L i j : Nat) (hij : i ≠ j) :
    writePos hdrLen L i + L ≤ writePos hdrLen L j ∨ writePos hdrLen L j + L ≤ writePos hdrLen L i :=
  (Nat.lt_or_gt_of_ne hij).imp (writePos_add_le hdrLen L) (writePos_add_le hdrLen L)

theorem blit_length (f : Cells) (p : Nat) (d : List Nat) : (blit f p d).length = f.length := by
  unfold blit
  split
  next hb =>
    rw [List.length_append, List.length_append, List.length_take_of_le (Nat.le_of_add_right_le hb),
      List.length_map, List.length_drop, Nat.add_sub_cancel' hb]
  next => rfl

theorem blit_getElem? (f : Cells) (p : Nat) (d : List Nat) (i : Nat) :
    (blit f p d)[i]? =
      if p + d.length ≤ f.length ∧ p ≤ i ∧ i < p + d.length then (d[i - p]?).map some else f[i]? := by
  unfold blit
  split
  next hb =>
    have hp : (f.take p).length = p := List.length_take_of_le (Nat.le_of_add_right_le hb)
    rw [List.append_assoc]
    rcases Nat.lt_or_ge i p with h1 | h1
    · rw [if_neg fun h => Nat.not_le_of_lt h1 h.2.1, List.getElem?_append_left (hp.symm ▸ h1),
        List.getElem?_take_of_lt h1]
    · rw [List.getElem?_append_right (hp.symm ▸ h1), hp]
      rcases Nat.lt_or_ge i (p + d.length) with h2 | h2
      · have : i - p < (d.map some).length := (List.length_map some).symm ▸ Nat.sub_lt_left_of_lt_add h1 h2
        rw [if_pos ⟨hb, h1, h2⟩, List.getElem?_append_left this, List.getElem?_map]
      · have : (d.map some).length ≤ i - p := (List.length_map some).symm ▸ Nat.le_sub_of_add_le' h2
        -- the index into `f.drop (p + d.length)` leads back to `i`: `p + d.length + (i - p - d.length) = i`
        rw [if_neg fun h => Nat.not_le_of_lt h.2.2 h2, List.getElem?_append_right this, List.getElem?_drop,
          List.length_map, Nat.sub_sub, Nat.add_sub_cancel' h2]
  next hb => rw [if_neg fun h => hb h.1]

/-- no bounds are asked for: a refused write is the identity -/
theorem blit_comm (f : Cells) (p1 p2 : Nat) (d1 d2 : List Nat)
    (hd : p1 + d1.length ≤ p2 ∨ p2 + d2.length ≤ p1) :
    blit (blit f p1 d1) p2 d2 = blit (blit f p2 d2) p1 d1 := by
  apply List.ext_getElem?
  intro i
  simp only [blit_getElem?, blit_length]
  by_cases c2 : p2 + d2.length ≤ f.length ∧ p2 ≤ i ∧ i < p2 + d2.length
  · -- `i` lies in the second range, so not in the first
    have c1 : ¬ (p1 + d1.length ≤ f.length ∧ p1 ≤ i ∧ i < p1 + d1.length) := fun c1 => hd.elim
      (fun h => Nat.lt_irrefl i (Nat.lt_of_lt_of_le c1.2.2 (Nat.le_trans h c2.2.1)))
      (fun h => Nat.lt_irrefl i (Nat.lt_of_lt_of_le c2.2.2 (Nat.le_trans h c1.2.1)))
    rw [if_pos c2, if_neg c1, if_pos c2]
  · rw [if_neg c2, if_neg c2]

theorem blit_mid (a m c : Cells) (d : List Nat) (h : m.length = d.length) :
    blit (a ++ m ++ c) a.length d = a ++ d.map some ++ c := by
  have hin : a.length + d.length ≤ (a ++ m ++ c).length := by
    rw [List.length_append, List.length_append, h]; exact Nat.le_add_right ..
  -- `take` leaves `a`; `a.length + d.length = (a ++ m).length`, so `drop` leaves `c`
  rw [blit, if_pos hin, List.append_assoc a m c, List.take_left, ← List.append_assoc, ← h, ← List.length_append,
    List.drop_left]

theorem flatten_length_const {L : Nat} (l : List (List Nat)) (h : ∀ r ∈ l, r.length = L) :
    l.flatten.length = l.length * L := by
  rw [List.length_flatten, List.map_eq_replicate_iff.mpr h, List.sum_replicate_nat]

/-- the file after rows `0 .. k-1` have been written in order: the written part, then one unwritten
    cell for every byte of the rows to come -/
def seqFile (hdr : List Nat) (rows : List (List Nat)) (k : Nat) : Cells :=
  (hdr ++ (rows.take k).flatten).map some ++ (rows.drop k).flatten.map fun _ => none

theorem mmapInit_eq (hdr : List Nat) (rows : List (List Nat)) (L : Nat) (hL : ∀ r ∈ rows, r.length = L) :
    mmapInit (rows.length * L + hdr.length) hdr = seqFile hdr rows 0 := by
  -- the fresh mapping: the unwritten cells of the header, then those of the rows
  have hcap : List.replicate (rows.length * L + hdr.length) (none : Option Nat) =
      [] ++ hdr.map (fun _ => none) ++ rows.flatten.map fun _ => none := by
    rw [List.map_const', List.map_const', List.nil_append, List.replicate_append_replicate,
      flatten_length_const rows hL, Nat.add_comm]
  rw [mmapInit, hcap, seqFile, List.take_zero, List.flatten_nil, List.append_nil, List.drop_zero]
  exact blit_mid [] _ _ hdr (List.length_map _)

theorem seqFile_last (hdr : List Nat) (rows : List (List Nat)) :
    seqFile hdr rows rows.length = mmapExpected hdr rows := by
  rw [seqFile, List.take_length, List.drop_length, List.flatten_nil, List.map_nil, List.append_nil, mmapExpected]

theorem getD_eq (rows : List (List Nat)) (k : Nat) (hk : k < rows.length) :
    rows.getD k [] = rows[k] := by
  simp [List.getD_eq_getElem?_getD, hk]

theorem seqFile_step (hdr : List Nat) (rows : List (List Nat)) (L : Nat)
    (hL : ∀ r ∈ rows, r.length = L) (k : Nat) (hk : k < rows.length) :
    mmapEff hdr.length (fun n => rows.getD n []) k (seqFile hdr rows k) = seqFile hdr rows (k + 1) := by
  have hpos : writePos hdr.length rows[k].length k = ((hdr ++ (rows.take k).flatten).map some).length := by
    rw [List.length_map, List.length_append, flatten_length_const _ fun r hr => hL r (List.mem_of_mem_take hr),
      List.length_take_of_le (Nat.le_of_lt hk), hL _ (List.getElem_mem hk), writePos, Nat.mul_comm, Nat.add_comm]
  show blit _ (writePos hdr.length (rows.getD k []).length k) (rows.getD k []) = _
  rw [getD_eq rows k hk, hpos,
    -- the unwritten part begins with the cells of row `k`, and the write fills exactly these
    seqFile, List.drop_eq_getElem_cons hk, List.flatten_cons, List.map_append (f := fun _ => none),
    ← List.append_assoc, blit_mid _ _ _ _ (List.length_map _),
    -- which makes the written part one row longer
    ← List.map_append, seqFile, List.take_succ_eq_append_getElem hk, List.flatten_concat, ← List.append_assoc]

theorem seq_fold (hdr : List Nat) (rows : List (List Nat)) (L : Nat)
    (hL : ∀ r ∈ rows, r.length = L) (k : Nat) (hk : k ≤ rows.length) :
    (List.range k).foldl (fun a n => mmapEff hdr.length (fun n => rows.getD n []) n a)
        (seqFile hdr rows 0) = seqFile hdr rows k := by
  induction k with
  | zero => rfl
  | succ k ih =>
    rw [List.range_succ, List.foldl_append, ih (Nat.le_of_succ_le hk), List.foldl_cons, List.foldl_nil]
    exact seqFile_step hdr rows L hL k hk

theorem mmapEff_comm (hdrLen : Nat) (row : Nat → List Nat) (L : Nat) (i j : Nat)
    (hi : (row i).length = L) (hj : (row j).length = L) (e : i ≠ j) (z : Cells) :
    mmapEff hdrLen row i (mmapEff hdrLen row j z) = mmapEff hdrLen row j (mmapEff hdrLen row i z) := by
  unfold mmapEff
  apply blit_comm
  rw [hi, hj]
  exact writePos_disjoint hdrLen L j i e.symm

end KT.Sch
