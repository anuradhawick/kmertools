import KtVerif.Proofs.Kmer
/-!
# `specKmers`: suffixes and windows, locality, reverse complement of the text

The stream is local (`specKmers_split`): cutting `s` at any `d`, the windows starting before `d`
only see `s.take (d + (k - 1))`, the others only `s.drop d`.  The front and back recursions, the
stream of an append and the homopolymer statements of C01 are instances.
-/
namespace KT

/-! ## the last `n` elements -/

namespace Min

/-- (in `Min` because the property statements of C01 and C09 name it `Min.lastN`) -/
def lastN {α : Type} (n : Nat) (l : List α) : List α := l.drop (l.length - n)

theorem lastN_length {α : Type} (n : Nat) (l : List α) : (lastN n l).length = min n l.length := by
  rw [lastN, List.length_drop, Nat.sub_sub_eq_min, Nat.min_comm]

theorem lastN_length_of_le {α : Type} {n : Nat} {l : List α} (h : n ≤ l.length) : (lastN n l).length = n := by
  rw [lastN_length, Nat.min_eq_left h]

theorem lastN_length_le {α : Type} (n : Nat) (l : List α) : (lastN n l).length ≤ l.length := by
  rw [lastN_length]; exact Nat.min_le_right _ _

theorem lastN_of_le {α : Type} {n : Nat} {l : List α} (h : l.length ≤ n) : lastN n l = l := by
  rw [lastN, Nat.sub_eq_zero_of_le h, List.drop_zero]

theorem take_append_lastN {α : Type} (n : Nat) (l : List α) :
    l.take (l.length - n) ++ lastN n l = l :=
  List.take_append_drop _ _

theorem lastN_append_right {α : Type} {n : Nat} (a l : List α) (h : n ≤ l.length) :
    lastN n (a ++ l) = lastN n l := by
  rw [lastN, lastN, List.length_append, Nat.add_sub_assoc h, List.drop_length_add_append]

theorem lastN_succ_snoc {α : Type} (n : Nat) (l : List α) (x : α) :
    lastN (n + 1) (l ++ [x]) = lastN n l ++ [x] := by
  simp only [lastN, List.length_append, List.length_singleton, Nat.add_sub_add_right]
  exact List.drop_append_of_le_length (Nat.sub_le _ _)

/-- in the shape of the minimiser iterators' ring buffer: `pop_front()` when it holds `n` entries, then `push_back(x)` -/
theorem lastN_push {α : Type} {n : Nat} (hn : 1 ≤ n) (l : List α) (x : α) :
    lastN n (l ++ [x]) =
      (if (lastN n l).length = n then (lastN n l).tail else lastN n l) ++ [x] := by
  by_cases h : n ≤ l.length
  · obtain ⟨j, rfl⟩ := Nat.exists_eq_add_one.2 hn
    -- `(lastN (j + 1) l).tail = lastN j l`: one more entry dropped
    rw [if_pos (lastN_length_of_le h), lastN_succ_snoc, lastN, lastN, List.tail_drop, ← Nat.sub_sub,
      Nat.sub_add_cancel (Nat.sub_pos_of_lt h)]
  · have hlt := Nat.lt_of_not_le h
    rw [lastN_of_le (Nat.le_of_lt hlt), if_neg (Nat.ne_of_lt hlt)]
    exact lastN_of_le (by rw [List.length_append]; exact hlt)

theorem mem_lastN {α : Type} {n : Nat} {l : List α} {x : α} (h : x ∈ lastN n l) : x ∈ l :=
  List.mem_of_mem_drop h

theorem lastN_lastN {α : Type} {n k : Nat} (l : List α) (h : n ≤ k) :
    lastN n (lastN k l) = lastN n l := by
  by_cases hk : k ≤ l.length
  · rw [← lastN_append_right (l.take (l.length - k)) _ (by rw [lastN_length_of_le hk]; exact h), take_append_lastN]
  · rw [lastN_of_le (n := k) (Nat.le_of_lt (Nat.lt_of_not_le hk))]

end Min
open KT.Min

/-! ## windows -/

theorem window_length {k i : Nat} {s : List Nat} (h : i + k ≤ s.length) :
    (window k s i).length = k := by
  rw [window, List.length_take, List.length_drop]
  exact Nat.min_eq_left (Nat.le_sub_of_add_le' h)

theorem window_length_le (k : Nat) (s : List Nat) (i : Nat) : (window k s i).length ≤ k :=
  List.length_take_le k (s.drop i)

theorem mem_window {k : Nat} {s : List Nat} {i x : Nat} (h : x ∈ window k s i) : x ∈ s :=
  List.mem_of_mem_drop (List.mem_of_mem_take h)

/-- `i` is one of the `n + 1 - k` window starts of a list of length `n` -/
theorem lt_starts_iff {i n k : Nat} : i < n + 1 - k ↔ i + k ≤ n :=
  Nat.lt_sub_iff_add_lt.trans Nat.lt_succ_iff

theorem window_add (k : Nat) (s : List Nat) (d j : Nat) : window k s (d + j) = window k (s.drop d) j := by
  simp only [window, List.drop_drop]

theorem window_append_left {k i : Nat} {a : List Nat} (b : List Nat) (h : i + k ≤ a.length) :
    window k (a ++ b) i = window k a i := by
  unfold window
  rw [List.drop_append_of_le_length (Nat.le_trans (Nat.le_add_right i k) h),
    List.take_append_of_le_length (by rw [List.length_drop]; exact Nat.le_sub_of_add_le' h)]

theorem window_of_length_le {k : Nat} {w : List Nat} (h : w.length ≤ k) : window k w 0 = w :=
  List.take_of_length_le h

theorem window_window {k w : Nat} (s : List Nat) (i j : Nat) (h : j + k ≤ w) :
    window k (window w s i) j = window k s (i + j) := by
  simp only [window, List.drop_take, List.take_take, List.drop_drop]
  rw [Nat.min_eq_left (Nat.le_sub_of_add_le' h)]

theorem window_map (k : Nat) (s : List Nat) (g : Nat → Nat) (i : Nat) :
    window k (s.map g) i = (window k s i).map g := by
  unfold window
  rw [List.map_take, List.map_drop]

theorem winValid_full (seq : List Nat) : winValid seq.length seq 0 = seq.all clean := by
  rw [winValid, window_of_length_le (Nat.le_refl _), decide_eq_true (Nat.le_of_eq (Nat.zero_add _)), Bool.true_and]

theorem window_last (k : Nat) (s : List Nat) : window k s (s.length - k) = lastN k s := by
  apply List.take_of_length_le
  rw [List.length_drop, Nat.sub_sub_eq_min]
  exact Nat.min_le_right _ _

theorem window_prefix {w : Nat} (P R : List Nat) (h : w ≤ P.length) :
    window w (P ++ R) (P.length - w) = lastN w P := by
  rw [window_append_left R (Nat.le_of_eq (Nat.sub_add_cancel h)), window_last]

theorem getElem?_window (k : Nat) (s : List Nat) (i d : Nat) :
    (window k s i)[d]? = if d < k then s[i + d]? else none := by
  rw [window, List.getElem?_take, List.getElem?_drop]

theorem window_all_clean_iff {k i : Nat} {s : List Nat} (h : i + k ≤ s.length) :
    (window k s i).all clean = true ↔ ∀ j, i ≤ j → j < i + k → clean (s.getD j 0) = true := by
  rw [List.all_eq_true]
  constructor
  · intro hall j hij hjk
    obtain ⟨d, rfl⟩ := Nat.exists_eq_add_of_le hij
    obtain ⟨x, hx⟩ : ∃ x, s[i + d]? = some x := ⟨_, List.getElem?_eq_getElem (Nat.lt_of_lt_of_le hjk h)⟩
    rw [List.getD_eq_getElem?_getD, hx]
    refine hall x (List.mem_of_getElem? (i := d) ?_)
    rw [getElem?_window, if_pos (Nat.lt_of_add_lt_add_left hjk), hx]
  · intro hall x hx
    obtain ⟨d, hd⟩ := List.mem_iff_getElem?.1 hx
    rw [getElem?_window] at hd
    split at hd
    · next hdk =>
      have := hall (i + d) (Nat.le_add_right i d) (Nat.add_lt_add_left hdk i)
      rwa [List.getD_eq_getElem?_getD, hd] at this
    · cases hd

/-! ## items -/

def itemOf (w : List Nat) : Nat × Nat := (enc w, rcEnc w)

/-- what the window starting at `i` contributes -/
def itemAt (k : Nat) (s : List Nat) (i : Nat) : Option (Nat × Nat) :=
  if (window k s i).all clean then some (itemOf (window k s i)) else none

/-- the pair emitted for window `w`, if it is a full clean window -/
def itemIf (k : Nat) (w : List Nat) : List (Nat × Nat) :=
  if k ≤ w.length ∧ w.all clean = true then [itemOf w] else []

theorem itemIf_reverse (k : Nat) (w : List Nat) : (itemIf k w).reverse = itemIf k w := by
  unfold itemIf
  split <;> rfl

theorem specKmers_def (k : Nat) (s : List Nat) :
    specKmers k s = (List.range (s.length + 1 - k)).filterMap (itemAt k s) := rfl

theorem itemAt_congr {k i j : Nat} {s t : List Nat} (h : window k s i = window k t j) :
    itemAt k s i = itemAt k t j := by
  unfold itemAt; rw [h]

theorem filterMap_congr' {α β} {f g : α → Option β} {l : List α} (h : ∀ x ∈ l, f x = g x) :
    l.filterMap f = l.filterMap g := by
  induction l with
  | nil => rfl
  | cons a l ih =>
    simp only [List.filterMap_cons, h a (by simp)]
    rw [ih (fun x hx => h x (by simp [hx]))]

theorem filterMap_range_add {α} (f : Nat → Option α) (d r : Nat) :
    (List.range (d + r)).filterMap f =
      (List.range d).filterMap f ++ (List.range r).filterMap fun i => f (d + i) := by
  rw [List.range_add, List.filterMap_append, List.filterMap_map]; rfl

theorem filterMap_ite_eq_map_filter {α β} (p : α → Bool) (f : α → β) (l : List α) :
    (l.filterMap fun i => if p i then some (f i) else none) = (l.filter p).map f := by
  induction l with
  | nil => rfl
  | cons a l ih =>
    simp only [List.filterMap_cons, List.filter_cons]
    cases h : p a <;> simp [ih]

theorem mem_specKmers {k : Nat} {s : List Nat} {p : Nat × Nat} (hp : p ∈ specKmers k s) :
    ∃ w : List Nat, w.length = k ∧ w.all clean = true ∧ p = itemOf w := by
  rw [specKmers_def, List.mem_filterMap] at hp
  obtain ⟨i, hi, h⟩ := hp
  rw [List.mem_range] at hi
  unfold itemAt at h
  split at h
  · next hc => exact ⟨window k s i, window_length (lt_starts_iff.1 hi), hc, (Option.some.inj h).symm⟩
  · cases h

theorem specKmers_of_short {k : Nat} {s : List Nat} (h : s.length < k) : specKmers k s = [] := by
  rw [specKmers_def, Nat.sub_eq_zero_of_le h]; rfl

theorem specKmers_of_length_le {k : Nat} {w : List Nat} (h : w.length ≤ k) : specKmers k w = itemIf k w := by
  unfold itemIf
  by_cases hl : k ≤ w.length
  · obtain rfl : w.length = k := Nat.le_antisymm h hl
    rw [specKmers_def, Nat.add_sub_cancel_left]
    simp only [List.range_one, List.filterMap_cons, List.filterMap_nil, itemAt, window_of_length_le h, hl,
      true_and]
    by_cases hc : w.all clean = true <;> simp [hc]
  · rw [specKmers_of_short (Nat.lt_of_not_le hl), if_neg (fun h => hl h.1)]

/-! ## locality -/

theorem specKmers_split {k : Nat} (hk1 : 1 ≤ k) (s : List Nat) (d : Nat) :
    specKmers k s = specKmers k (s.take (d + (k - 1))) ++ specKmers k (s.drop d) := by
  obtain ⟨j, rfl⟩ := Nat.exists_eq_add_one.2 hk1
  rw [Nat.add_sub_cancel]
  by_cases hd : d + j ≤ s.length
  · -- `d` windows start before the cut, the others after it
    have e : s.length - j = d + (s.length - d - j) := by
      rw [Nat.sub_sub, ← Nat.add_sub_assoc hd, Nat.add_sub_add_left]
    have h1 : ∀ i ∈ List.range d, itemAt (j + 1) s i = itemAt (j + 1) (s.take (d + j)) i := by
      intro i hi
      conv => lhs; rw [← List.take_append_drop (d + j) s]
      refine itemAt_congr (window_append_left _ ?_)
      rw [List.length_take, Nat.min_eq_left hd, ← Nat.add_assoc]
      exact Nat.succ_le_of_lt (Nat.add_lt_add_right (List.mem_range.1 hi) j)
    have h2 : ∀ i, itemAt (j + 1) s (d + i) = itemAt (j + 1) (s.drop d) i :=
      fun i => itemAt_congr (window_add (j + 1) s d i)
    rw [specKmers_def, specKmers_def, specKmers_def, List.length_take, List.length_drop, Nat.min_eq_left hd]
    simp only [Nat.add_sub_add_right]
    rw [Nat.add_sub_cancel, e, filterMap_range_add, filterMap_congr' h1, filterMap_congr' fun i _ => h2 i]
  · have hd := Nat.le_of_lt (Nat.lt_of_not_le hd)
    have hs : (s.drop d).length < j + 1 := by
      rw [List.length_drop, Nat.lt_succ_iff, Nat.sub_le_iff_le_add, Nat.add_comm]; exact hd
    rw [List.take_of_length_le hd, specKmers_of_short hs, List.append_nil]

theorem specKmers_cons {k : Nat} (hk1 : 1 ≤ k) (b : Nat) (s : List Nat) :
    specKmers k (b :: s) = itemIf k ((b :: s).take k) ++ specKmers k s := by
  rw [specKmers_split hk1 (b :: s) 1, Nat.add_sub_cancel' hk1, specKmers_of_length_le (List.length_take_le _ _)]
  rfl

theorem specKmers_concat {k : Nat} (hk1 : 1 ≤ k) (b : Nat) (s : List Nat) :
    specKmers k (s ++ [b]) = specKmers k s ++ itemIf k (lastN k (s ++ [b])) := by
  obtain ⟨j, rfl⟩ := Nat.exists_eq_add_one.2 hk1
  have hl : (lastN j s ++ [b]).length ≤ j + 1 := by
    rw [List.length_append, lastN_length]; exact Nat.succ_le_succ (Nat.min_le_left _ _)
  rw [lastN_succ_snoc, ← specKmers_of_length_le hl]
  by_cases hs : j ≤ s.length
  · rw [specKmers_split hk1 (s ++ [b]) (s.length - j), Nat.add_sub_cancel, Nat.sub_add_cancel hs,
      List.take_left, List.drop_append_of_le_length (Nat.sub_le _ _)]
    rfl
  · have hs := Nat.lt_of_not_le hs
    rw [lastN_of_le (Nat.le_of_lt hs), specKmers_of_short (s := s) (Nat.lt_succ_of_lt hs), List.nil_append]

/-- the first part sees nothing of `t`, and `t` only the last `k - 1` bytes before it -/
theorem specKmers_append {k : Nat} (hk1 : 1 ≤ k) (a t : List Nat) (ha : k - 1 ≤ a.length) :
    specKmers k (a ++ t) = specKmers k a ++ specKmers k (lastN (k - 1) a ++ t) := by
  rw [specKmers_split hk1 (a ++ t) (a.length - (k - 1)), Nat.sub_add_cancel ha, List.take_left,
    List.drop_append_of_le_length (Nat.sub_le _ _)]
  rfl

theorem filterMap_range_const {α : Type} (f : Nat → Option α) (a : α) :
    ∀ m, (∀ i, i < m → f i = some a) → (List.range m).filterMap f = List.replicate m a
  | 0, _ => rfl
  | m+1, h => by
    rw [List.range_succ, List.filterMap_append,
      filterMap_range_const f a m (fun i hi => h i (Nat.lt_succ_of_lt hi))]
    simp [h m (Nat.lt_succ_self m), List.replicate_succ']

theorem specKmers_replicate (k n : Nat) {c : Nat} (hc : clean c = true) :
    specKmers k (List.replicate n c) = List.replicate (n + 1 - k) (itemOf (List.replicate k c)) := by
  rw [specKmers_def, List.length_replicate]
  apply filterMap_range_const
  intro i hi
  have hw : window k (List.replicate n c) i = List.replicate k c := by
    rw [window, List.drop_replicate, List.take_replicate, Nat.min_eq_left (Nat.le_sub_of_add_le' (lt_starts_iff.1 hi))]
  rw [itemAt, hw, if_pos (by simp [hc])]

/-! ## reverse complement of text -/

theorem rcSeq_cons (b : Nat) (s : List Nat) : rcSeq (b :: s) = rcSeq s ++ [rcByte b] := by
  simp [rcSeq]

theorem rcSeq_length (s : List Nat) : (rcSeq s).length = s.length := by
  simp [rcSeq]

theorem all_clean_rcSeq (w : List Nat) : (rcSeq w).all clean = w.all clean := by
  simp [rcSeq, List.all_reverse, List.all_map, Function.comp_def, clean_rcByte]

theorem map_nt4_rcSeq {w : List Nat} (h : w.all clean = true) : (rcSeq w).map nt4 = rcDigits (w.map nt4) := by
  simp only [rcSeq, rcDigits, List.map_reverse, List.map_map, Function.comp_def]
  exact congrArg List.reverse (List.map_congr_left fun b hb => nt4_rcByte (List.all_eq_true.1 h b hb))

theorem enc_rcSeq {w : List Nat} (h : w.all clean = true) : enc (rcSeq w) = rcEnc w := by
  rw [enc, map_nt4_rcSeq h, rcEnc_eq]

theorem rcEnc_rcSeq {w : List Nat} (h : w.all clean = true) : rcEnc (rcSeq w) = enc w := by
  rw [rcEnc_eq, map_nt4_rcSeq h, rcDigits_rcDigits (map_nt4_lt h), enc]

theorem itemIf_rcSeq (k : Nat) (w : List Nat) :
    itemIf k (rcSeq w) = (itemIf k w).map Prod.swap := by
  unfold itemIf
  rw [rcSeq_length, all_clean_rcSeq]
  by_cases h : k ≤ w.length ∧ w.all clean = true
  · rw [if_pos h, if_pos h]
    simp [itemOf, enc_rcSeq h.2, rcEnc_rcSeq h.2]
  · rw [if_neg h, if_neg h]; rfl

theorem lastN_rcSeq (k : Nat) (s : List Nat) : lastN k (rcSeq s) = rcSeq (s.take k) := by
  rw [lastN, rcSeq, rcSeq, List.length_reverse, ← List.reverse_take, List.map_take]

end KT
