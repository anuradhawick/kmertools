import Mathlib.Data.Finset.Card
import Mathlib.Tactic.Ring
import KtVerif.Props.C02
/-! Counting canonical k-mers through the involution argument (helpers for C03): `canon_card`, the
palindrome counts for even and odd `k`, and from them the documented formula (`canonS_card_formula`). -/
namespace KT.Canon
open KT

/-- reverse complement of an `n`-digit code by arithmetic: pops the low digit, complements, pushes on top -/
def rc : Nat → Nat → Nat
  | 0, _ => 0
  | n+1, x => (3 - x % 4) * 4^n + rc n (x / 4)

/-- `rc` is `revCompSpec` in arithmetic form; its three laws below are those of the digit lists -/
theorem revCompSpec_eq_rc (k x : Nat) : revCompSpec k x = rc k x := by
  induction k generalizing x with
  | zero => rfl
  | succ k ih => rw [revCompSpec_succ, ih]; rfl

theorem rc_lt (n x : Nat) : rc n x < 4^n := by
  rw [← revCompSpec_eq_rc]; exact revCompSpec_lt n x

theorem rc_concat (p q a b : Nat) (hb : b < 4^q) :
    rc (p+q) (a * 4^q + b) = rc q b * 4^p + rc p a := by
  rw [← revCompSpec_eq_rc, ← revCompSpec_eq_rc, ← revCompSpec_eq_rc]; exact revCompSpec_add p q a b hb

theorem rc_rc (n x : Nat) (hx : x < 4^n) : rc n (rc n x) = x := by
  rw [← revCompSpec_eq_rc, ← revCompSpec_eq_rc]; exact revCompSpec_involutive n x hx

end KT.Canon

namespace KT.Canon
open Finset

def codes (k : Nat) : Finset Nat := range (4^k)
def canonS (k : Nat) : Finset Nat := (codes k).filter fun x => x ≤ rc k x
def ltS (k : Nat) : Finset Nat := (codes k).filter fun x => x < rc k x
def gtS (k : Nat) : Finset Nat := (codes k).filter fun x => rc k x < x
def palS (k : Nat) : Finset Nat := (codes k).filter fun x => rc k x = x

theorem mem_canonS {k x : Nat} : x ∈ canonS k ↔ x < 4^k ∧ x ≤ rc k x := by simp [canonS, codes]
theorem mem_ltS {k x : Nat} : x ∈ ltS k ↔ x < 4^k ∧ x < rc k x := by simp [ltS, codes]
theorem mem_gtS {k x : Nat} : x ∈ gtS k ↔ x < 4^k ∧ rc k x < x := by simp [gtS, codes]
theorem mem_palS {k x : Nat} : x ∈ palS k ↔ x < 4^k ∧ rc k x = x := by simp [palS, codes]

theorem card_lt_eq_gt (k : Nat) : (ltS k).card = (gtS k).card := by
  apply Finset.card_bij (fun x _ => rc k x)
  · intro x hx
    rw [mem_ltS] at hx
    rw [mem_gtS, rc_rc k x hx.1]
    exact ⟨rc_lt k x, hx.2⟩
  · intro x hx y hy h
    rw [mem_ltS] at hx hy
    rw [← rc_rc k x hx.1, h, rc_rc k y hy.1]
  · intro y hy
    rw [mem_gtS] at hy
    exact ⟨rc k y, mem_ltS.2 ⟨rc_lt k y, by rw [rc_rc k y hy.1]; exact hy.2⟩, rc_rc k y hy.1⟩

theorem canonS_card (k : Nat) : (canonS k).card = (ltS k).card + (palS k).card := by
  rw [canonS, ltS, palS, ← card_union_of_disjoint, ← filter_or]
  · exact congrArg card (filter_congr fun x _ => by omega)
  · exact disjoint_filter.2 fun x _ h1 h2 => by omega

theorem canonS_add_gtS (k : Nat) : (canonS k).card + (gtS k).card = 4^k := by
  have h := card_filter_add_card_filter_not (s := codes k) fun x => x ≤ rc k x
  simp only [Nat.not_le] at h
  rw [codes, card_range] at h
  exact h

theorem card_split (k : Nat) : (ltS k).card + (palS k).card + (gtS k).card = 4^k := by
  rw [← canonS_card]; exact canonS_add_gtS k

theorem canon_card (k : Nat) : 2 * (canonS k).card = 4^k + (palS k).card := by
  have := canonS_card k
  have := canonS_add_gtS k
  have := card_lt_eq_gt k
  omega

/-- even k = 2h: palindromes are exactly a*4^h + rc h a -/
theorem pal_even (h : Nat) : (palS (h+h)).card = 4^h := by
  have hpos : 0 < 4^h := Nat.pow_pos (by decide)
  have : palS (h+h) = (range (4^h)).image (fun a => a * 4^h + rc h a) := by
    ext x
    simp only [mem_palS, mem_range, mem_image]
    constructor
    · rintro ⟨hx, hp⟩
      refine ⟨x / 4^h, ?_, ?_⟩
      · rw [Nat.div_lt_iff_lt_mul hpos]; rwa [← Nat.pow_add]
      · have hx' : x / 4^h * 4^h + x % 4^h = x := Nat.div_add_mod' x (4^h)
        have hc := rc_concat h h (x / 4^h) (x % 4^h) (Nat.mod_lt _ hpos)
        rw [hx', hp] at hc
        -- x = rc h (x % 4^h) * 4^h + rc h (x / 4^h)  ⇒ low part = rc h (high part)
        have hlow : x % 4^h = rc h (x / 4^h) := by
          conv_lhs => rw [hc]
          rw [Nat.mul_comm, Nat.mul_add_mod]
          exact Nat.mod_eq_of_lt (rc_lt h _)
        rw [← hlow]; exact hx'
    · rintro ⟨a, ha, rfl⟩
      exact ⟨concat_lt ha (rc_lt h a), by rw [rc_concat h h a (rc h a) (rc_lt h a), rc_rc h a ha]⟩
  rw [this, Finset.card_image_of_injOn, card_range]
  intro a _ b _ hab
  -- dividing by `4^h` gives back the high part: `(a * 4^h + rc h a) / 4^h = a`
  have := congrArg (· / 4^h) hab
  simp only at this
  rwa [Nat.mul_comm, Nat.mul_add_div hpos, Nat.div_eq_of_lt (rc_lt h a), Nat.mul_comm b,
    Nat.mul_add_div hpos, Nat.div_eq_of_lt (rc_lt h b), Nat.add_zero, Nat.add_zero] at this

/-- a code equal to its reverse complement has digit sum `3k/2`, so `k` is even -/
theorem rc_ne_self_odd (h x : Nat) : rc (h + 1 + h) x ≠ x := by
  intro he
  have hs := sum_rcDigits (digitsOf_lt (h + 1 + h) x)
  rw [← digitsOf_revCompSpec, revCompSpec_eq_rc, he, digitsOf_length] at hs
  omega

theorem pal_odd (h : Nat) : (palS (h + 1 + h)).card = 0 := by
  rw [Finset.card_eq_zero, Finset.eq_empty_iff_forall_notMem]
  exact fun x hx => rc_ne_self_odd h x (mem_palS.1 hx).2

theorem canonS_card_formula (k : Nat) : (canonS k).card = kcountFormula k := by
  have hc := canon_card k
  unfold kcountFormula
  rcases Nat.mod_two_eq_zero_or_one k with hk | hk
  · have e : k = k / 2 + k / 2 := by omega
    rw [e, pal_even, ← e] at hc
    rw [if_pos hk, ← hc, Nat.mul_div_cancel_left _ (by decide)]
  · have e : k = k / 2 + 1 + k / 2 := by omega
    rw [e, pal_odd, ← e, Nat.add_zero] at hc
    rw [if_neg (by rw [hk]; exact Nat.one_ne_zero), ← hc, Nat.mul_div_cancel_left _ (by decide)]

end KT.Canon
