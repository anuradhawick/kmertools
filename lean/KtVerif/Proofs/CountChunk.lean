import KtVerif.Proofs.SchedInv
/-!
# C07, chunk level: invariant of `CSys` under every schedule

Same conservation argument as for `GSys` (`Sch.perm_step`): the k-mers of the records taken are the
table plus the k-mers of the records some worker holds in state `counting`.
-/
namespace KT.Cnt
open KT

/-- the k-mers a worker holds that are not yet in the table -/
def inflight (kms : Nat → List Nat) : CState → List Nat
  | .counting n => kms n
  | _ => []

/-- nothing has happened yet: no length added, every worker before its first take -/
def Quiet (s : CSys) : Prop := s.soFar = 0 ∧ ∀ c ∈ s.ws, c = CState.start ∨ c = CState.ready

structure Inv (N T start : Nat) (kms : Nat → List Nat) (s : CSys) : Prop where
  len : s.ws.length = T
  le1 : start ≤ s.next
  le2 : s.next ≤ N
  /-- the records taken in this chunk are a contiguous segment -/
  tk : s.taken = List.range' start (s.next - start)
  /-- their k-mers are in the table or still in flight -/
  tb : (s.table ++ s.ws.flatMap (inflight kms)).Perm (s.taken.flatMap kms)
  /-- a worker leaves only after a record was taken or at the end of the input -/
  prog : Quiet s ∨ start < s.next ∨ s.next = N

theorem inv_init (N T start : Nat) (kms : Nat → List Nat) (h : start ≤ N) :
    Inv N T start kms (CSys.init T start) :=
  ⟨List.length_replicate, Nat.le_refl _, h, by simp [CSys.init],
    by simp [CSys.init, List.flatMap_replicate, inflight],
    .inl ⟨rfl, fun _ hc => .inl (List.eq_of_mem_replicate hc)⟩⟩

theorem inv_step (N limit T start : Nat) (kms : Nat → List Nat) (len : Nat → Nat) (s s' : CSys)
    (st : CStep) (h : Inv N T start kms s) (ha : CSys.apply N limit kms len s st = some s') :
    Inv N T start kms s' := by
  have hlen : ∀ {w x}, (s.ws.set w x).length = T := List.length_set.trans h.len
  -- once a worker is past its first take, or a length was added, the state is no longer quiet
  have hnq : ¬ Quiet s → start < s.next ∨ s.next = N := h.prog.resolve_left
  have hbusy : ∀ {w c}, s.ws[w]? = some c → c ≠ CState.start → c ≠ CState.ready → start < s.next ∨ s.next = N :=
    fun hw h1 h2 => hnq fun q => (q.2 _ (List.mem_of_getElem? hw)).elim h1 h2
  cases st with
  | check w =>
    simp only [CSys.apply] at ha
    split at ha
    · rename_i hw
      split at ha
      · rename_i hgt
        cases ha
        -- the limit is exceeded, so some length was added
        refine ⟨hlen, h.le1, h.le2, h.tk, ?_, .inr (hnq fun q => Nat.not_lt_zero limit (q.1 ▸ hgt))⟩
        simpa using Sch.perm_step (inflight kms) hw h.tb .done [] [] (.refl _)
      · cases ha
        refine ⟨hlen, h.le1, h.le2, h.tk, ?_, h.prog.imp_left fun q => ⟨q.1, fun c hc => ?_⟩⟩
        · simpa using Sch.perm_step (inflight kms) hw h.tb .ready [] [] (.refl _)
        · exact (List.mem_or_eq_of_mem_set hc).elim (q.2 c) .inr
    · cases ha
  | take w =>
    simp only [CSys.apply] at ha
    split at ha
    · rename_i hw
      split at ha
      · rename_i hlt
        cases ha
        have h1 := h.le1
        refine ⟨hlen, Nat.le_succ_of_le h1, hlt, ?_, ?_, .inr (.inl (Nat.lt_succ_of_le h1))⟩
        · rw [h.tk, Nat.succ_sub h1, List.range'_concat]
          simp only [Nat.one_mul, Nat.add_sub_cancel' h1]
        · simpa [inflight] using
            Sch.perm_step (inflight kms) hw h.tb (.counting s.next) [] (kms s.next) (.refl _)
      · cases ha
        refine ⟨hlen, h.le1, h.le2, h.tk, ?_, .inr (.inr (Nat.le_antisymm h.le2 (Nat.le_of_not_lt ‹_›)))⟩
        simpa using Sch.perm_step (inflight kms) hw h.tb .done [] [] (.refl _)
    · cases ha
  | count w =>
    simp only [CSys.apply] at ha
    split at ha
    · rename_i n hw
      cases ha
      refine ⟨hlen, h.le1, h.le2, h.tk, ?_, .inr (hbusy hw (by simp) (by simp))⟩
      simpa [inflight] using Sch.perm_step (inflight kms) hw h.tb (.adding n) (kms n) [] (.refl _)
    · cases ha
  | addlen w =>
    simp only [CSys.apply] at ha
    split at ha
    · rename_i n hw
      cases ha
      refine ⟨hlen, h.le1, h.le2, h.tk, ?_, .inr (hbusy hw (by simp) (by simp))⟩
      simpa using Sch.perm_step (inflight kms) hw h.tb .start [] [] (.refl _)
    · cases ha

theorem inv_run (N limit T start : Nat) (kms : Nat → List Nat) (len : Nat → Nat) (s s' : CSys)
    (sched : List CStep) (h : Inv N T start kms s)
    (hr : CSys.run N limit kms len s sched = some s') : Inv N T start kms s' := by
  induction sched generalizing s with
  | nil => simp only [CSys.run, Option.some.injEq] at hr; subst hr; exact h
  | cons st rest ih =>
    simp only [CSys.run] at hr
    split at hr
    · rename_i s1 h1
      exact ih s1 (inv_step N limit T start kms len s s1 st h h1) hr
    · cases hr

end KT.Cnt
