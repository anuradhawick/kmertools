import KtVerif.Model.Sched
import KtVerif.Proofs.VecAccum
/-!
# C07, merge level: `mergeTables` sums the lines per key; tables of multisets
-/
namespace KT

/-- a dumped table: duplicate-free keys, each with its multiplicity in the multiset `l`, nothing else -/
def IsTableOf (t : List (Nat × Nat)) (l : List Nat) : Prop :=
  (t.map (·.1)).Nodup ∧ (∀ x c, (x, c) ∈ t → c = countOcc x l ∧ 0 < c) ∧ (∀ x, x ∈ l → x ∈ t.map (·.1))

end KT

namespace KT.Cnt
open KT

/-- the body of the fold that `mergeTables` is (`mergeTables_eq`) -/
def mstep (acc : List (Nat × Nat)) (p : Nat × Nat) : List (Nat × Nat) :=
  match acc.find? (fun q => q.1 == p.1) with
  | some _ => acc.map fun q => if q.1 == p.1 then (q.1, q.2 + p.2) else q
  | none => acc ++ [p]

theorem mergeTables_eq (files : List (List (Nat × Nat))) :
    mergeTables files = files.flatten.foldl mstep [] := rfl

theorem mstep_eq (acc : List (Nat × Nat)) (p : Nat × Nat) :
    mstep acc p = if p.1 ∈ acc.map (·.1) then acc.map fun q => (q.1, q.2 + if q.1 = p.1 then p.2 else 0)
      else acc ++ [p] := by
  unfold mstep
  split
  · rename_i q0 hf
    have e : q0.1 = p.1 := by simpa using List.find?_some hf
    rw [if_pos (e ▸ List.mem_map_of_mem (List.mem_of_find?_eq_some hf))]
    refine List.map_congr_left fun q _ => ?_
    by_cases hq : q.1 = p.1
    · simp [hq]
    · simp [hq]
  · rename_i hf
    rw [if_neg fun hm => ?_]
    obtain ⟨q, hq, e⟩ := List.mem_map.mp hm
    exact List.find?_eq_none.mp hf q hq (beq_iff_eq.mpr e)

def lineSum (x : Nat) (lines : List (Nat × Nat)) : Nat := ((lines.filter (·.1 == x)).map (·.2)).sum

theorem lineSum_nil (x : Nat) : lineSum x [] = 0 := rfl

theorem lineSum_append (x : Nat) (a b : List (Nat × Nat)) :
    lineSum x (a ++ b) = lineSum x a + lineSum x b := by
  unfold lineSum
  rw [List.filter_append, List.map_append, List.sum_append_nat]

theorem lineSum_cons (x : Nat) (p : Nat × Nat) (lines : List (Nat × Nat)) :
    lineSum x (p :: lines) = (if x = p.1 then p.2 else 0) + lineSum x lines := by
  unfold lineSum
  rw [List.filter_cons]
  by_cases h : x = p.1
  · rw [if_pos h, if_pos (beq_iff_eq.mpr h.symm), List.map_cons, List.sum_cons]
  · rw [if_neg h, if_neg fun e => h (beq_iff_eq.mp e).symm, Nat.zero_add]

theorem lineSum_of_not_mem (x : Nat) (t : List (Nat × Nat)) (h : x ∉ t.map (·.1)) : lineSum x t = 0 := by
  unfold lineSum
  rw [List.filter_eq_nil_iff.mpr fun p hp e => h (List.mem_map.mpr ⟨p, hp, eq_of_beq e⟩)]
  rfl

theorem lineSum_of_mem (p : Nat × Nat) (t : List (Nat × Nat)) (hnd : (t.map (·.1)).Nodup)
    (h : p ∈ t) : lineSum p.1 t = p.2 := by
  induction t with
  | nil => cases h
  | cons q t ih =>
    rw [List.map_cons, List.nodup_cons] at hnd
    rw [lineSum_cons]
    rcases List.mem_cons.mp h with rfl | e
    · rw [lineSum_of_not_mem _ _ hnd.1, if_pos rfl]; rfl
    · rw [if_neg fun e2 : p.1 = q.1 => hnd.1 (e2 ▸ List.mem_map_of_mem e), ih hnd.2 e, Nat.zero_add]

/-- `acc` is the table of the lines read so far: one entry per key that occurs, holding the sum of
    the counts of its lines -/
structure Good (acc lines : List (Nat × Nat)) : Prop where
  nd : (acc.map (·.1)).Nodup
  val : ∀ q ∈ acc, q.2 = lineSum q.1 lines
  keys : ∀ x, x ∈ acc.map (·.1) ↔ x ∈ lines.map (·.1)

theorem good_step (acc lines : List (Nat × Nat)) (p : Nat × Nat) (h : Good acc lines) :
    Good (mstep acc p) (lines ++ [p]) := by
  have hls : ∀ x, lineSum x (lines ++ [p]) = lineSum x lines + (if x = p.1 then p.2 else 0) := fun x => by
    rw [lineSum_append, lineSum_cons, lineSum_nil, Nat.add_zero]
  have hk : ∀ x, x ∈ (lines ++ [p]).map (·.1) ↔ x ∈ acc.map (·.1) ∨ x = p.1 := fun x => by
    rw [List.map_append, List.mem_append, ← h.keys, List.map_singleton, List.mem_singleton]
  rw [mstep_eq]
  by_cases hm : p.1 ∈ acc.map (·.1)
  · -- the key is there: the keys stay, and every entry follows its own line sum
    rw [if_pos hm]
    have hkeys : (acc.map fun q => (q.1, q.2 + if q.1 = p.1 then p.2 else 0)).map (·.1) = acc.map (·.1) := by
      rw [List.map_map]; rfl
    refine ⟨hkeys ▸ h.nd, fun q' hq' => ?_, fun x => ?_⟩
    · obtain ⟨q, hq, rfl⟩ := List.mem_map.mp hq'
      show q.2 + _ = _
      rw [hls, h.val q hq]
    · rw [hkeys, hk]
      exact ⟨.inl, fun h1 => h1.elim id fun e => e ▸ hm⟩
  · -- a new key: `lines` has no line with it either
    rw [if_neg hm]
    refine ⟨?_, fun q hq => ?_, fun x => ?_⟩
    · rw [List.map_append, List.nodup_append]
      refine ⟨h.nd, List.pairwise_singleton _ _, fun a ha b hb e => ?_⟩
      obtain rfl : b = p.1 := List.mem_singleton.mp hb
      exact hm (e ▸ ha)
    · rw [hls]
      rcases List.mem_append.mp hq with hq | hq
      · rw [if_neg fun e : q.1 = p.1 => hm (e ▸ List.mem_map_of_mem hq)]
        exact h.val q hq
      · obtain rfl := List.mem_singleton.mp hq
        rw [if_pos rfl, lineSum_of_not_mem _ _ fun hl => hm ((h.keys _).mpr hl), Nat.zero_add]
    · rw [hk, List.map_append, List.mem_append, List.map_singleton, List.mem_singleton]

theorem good_foldl (lines acc done : List (Nat × Nat)) (h : Good acc done) :
    Good (lines.foldl mstep acc) (done ++ lines) := by
  induction lines generalizing acc done with
  | nil => simpa using h
  | cons p lines ih =>
    have := ih (mstep acc p) (done ++ [p]) (good_step acc done p h)
    simpa [List.append_assoc] using this

theorem good_merge (files : List (List (Nat × Nat))) : Good (mergeTables files) files.flatten := by
  have := good_foldl files.flatten [] [] ⟨List.nodup_nil, nofun, fun _ => Iff.rfl⟩
  simpa [mergeTables_eq] using this

/-! ## from line sums to multiplicities -/

theorem tab_mem_keys {t : List (Nat × Nat)} {l : List Nat} (h : IsTableOf t l) (x : Nat) :
    x ∈ t.map (·.1) ↔ x ∈ l := by
  refine ⟨fun hm => ?_, h.2.2 x⟩
  obtain ⟨⟨_, c⟩, hq, rfl⟩ := List.mem_map.mp hm
  have := h.2.1 _ c hq
  exact List.count_pos_iff.mp (by rw [← countOcc_eq_count, ← this.1]; exact this.2)

theorem tab_lineSum {t : List (Nat × Nat)} {l : List Nat} (h : IsTableOf t l) (x : Nat) :
    lineSum x t = countOcc x l := by
  by_cases hm : x ∈ t.map (·.1)
  · obtain ⟨⟨_, c⟩, hq, rfl⟩ := List.mem_map.mp hm
    rw [lineSum_of_mem _ t h.1 hq, (h.2.1 _ c hq).1]
  · rw [lineSum_of_not_mem x t hm, countOcc_eq_count,
      List.count_eq_zero.mpr fun hx => hm ((tab_mem_keys h x).mpr hx)]

theorem tables_flatten (x : Nat) (files : List (List (Nat × Nat))) (ls : List (List Nat))
    (hlen : files.length = ls.length)
    (h : ∀ i (hi : i < files.length) (hi' : i < ls.length), IsTableOf files[i] ls[i]) :
    lineSum x files.flatten = countOcc x ls.flatten ∧ (x ∈ files.flatten.map (·.1) ↔ x ∈ ls.flatten) := by
  induction files generalizing ls with
  | nil =>
    obtain rfl : ls = [] := List.eq_nil_of_length_eq_zero hlen.symm
    exact ⟨rfl, Iff.rfl⟩
  | cons f files ih =>
    cases ls with
    | nil => cases hlen
    | cons l ls =>
      have h0 : IsTableOf f l := h 0 (Nat.zero_lt_succ _) (Nat.zero_lt_succ _)
      obtain ⟨ih1, ih2⟩ := ih ls (Nat.succ.inj hlen)
        (fun i hi hi' => h (i + 1) (Nat.succ_lt_succ hi) (Nat.succ_lt_succ hi'))
      simp only [List.flatten_cons, lineSum_append, countOcc_eq_count, List.count_append, List.map_append,
        List.mem_append, tab_lineSum h0, tab_mem_keys h0, ih1, ih2, and_true]

theorem mergeTables_tab (files : List (List (Nat × Nat))) (ls : List (List Nat))
    (hlen : files.length = ls.length)
    (h : ∀ i (hi : i < files.length) (hi' : i < ls.length), IsTableOf files[i] ls[i]) :
    IsTableOf (mergeTables files) ls.flatten := by
  have hG := good_merge files
  have hkey : ∀ x, x ∈ (mergeTables files).map (·.1) ↔ x ∈ ls.flatten := fun x =>
    (hG.keys x).trans (tables_flatten x files ls hlen h).2
  refine ⟨hG.nd, fun x c hm => ?_, fun x => (hkey x).mpr⟩
  have hc : c = countOcc x ls.flatten := (hG.val _ hm).trans (tables_flatten x files ls hlen h).1
  have := List.count_pos_iff.mpr ((hkey x).mp (List.mem_map.mpr ⟨(x, c), hm, rfl⟩))
  exact ⟨hc, by rw [hc, countOcc_eq_count]; exact this⟩

theorem isTableOf_perm {t : List (Nat × Nat)} {l l' : List Nat} (hp : l.Perm l') (h : IsTableOf t l) :
    IsTableOf t l' := by
  obtain ⟨h1, h2, h3⟩ := h
  refine ⟨h1, fun x c hm => ?_, fun x hx => h3 x (hp.mem_iff.mpr hx)⟩
  rw [countOcc_eq_count, ← hp.count_eq, ← countOcc_eq_count]
  exact h2 x c hm

end KT.Cnt
