import KtVerif.Spec.EndToEnd
import KtVerif.Proofs.CgrF64
/-!
# Chaos game in binary64 beyond the exactly representable range: what the last bases say about the last point

The last point of the walk over `p ++ q` is the end of the walk over `q` from some point of the square (`cgrF64_last`).

Sub-square: the step is monotone, so that walk ends between the walks over `q` from the corners `(0, 0)` and `(S, S)` of
the square; these two are exact as long as `bitLen S + |q| ≤ 53` (`foldl_stepF_emb`), however long `p` was.

Zero run: a base whose corner has coordinate 0 maps the coordinate `v` to `fl(fl(0 + v) / 2)`.  The bounds `S·2^k` are
doubles for every `k`, so each such base halves the bound exactly, at any run length.
-/
namespace KT.Fl
open KT

attribute [local irreducible] f64One  -- see the note in `FloatDiv.lean`

theorem cgrF64_last (S : Nat) (p q : List Nat) (l : List (Nat × Nat)) (hq : q ≠ [])
    (h : cgrF64 S (p ++ q) = some l) :
    ∃ st, InSquareF S st ∧ l.getLastD (0, 0) = (q.map corner).foldl (stepF S) st := by
  rw [cgrF64_eq_walk] at h
  exact walk_last_append (stepF S) (stepF_inSquareF S) (cgrCentre_le S) h hq (0, 0)

/-! ## sub-square containment -/

theorem foldl_stepF_mono (S : Nat) (cs : List (Nat × Nat)) : ∀ (p p' : Nat × Nat), p.1 ≤ p'.1 ∧ p.2 ≤ p'.2 →
    (cs.foldl (stepF S) p).1 ≤ (cs.foldl (stepF S) p').1 ∧ (cs.foldl (stepF S) p).2 ≤ (cs.foldl (stepF S) p').2 := by
  induction cs with
  | nil => exact fun _ _ h => h
  | cons c cs ih =>
    intro p p' h
    -- rewritten first: left to unify `foldl … p (c :: cs)` with `foldl … (stepF S p c) cs`, `exact` unfolds `stepF` to the bottom
    rw [List.foldl_cons, List.foldl_cons]
    exact ih _ _ ⟨cgrMid_mono (Nat.add_le_add_left h.1 _), cgrMid_mono (Nat.add_le_add_left h.2 _)⟩

theorem foldl_ext_mem {α β : Type} (f g : α → β → α) (l : List β) : ∀ (a : α),
    (∀ a, ∀ b ∈ l, f a b = g a b) → l.foldl f a = l.foldl g a := by
  induction l with
  | nil => intro a _; rfl
  | cons b bs ih =>
    intro a h
    rw [List.foldl_cons, List.foldl_cons, h a b List.mem_cons_self]
    exact ih _ (fun a c hc => h a c (List.mem_cons_of_mem _ hc))

theorem subsquareLo_nil (S : Nat) : subsquareLo S [] = 0 := rfl

theorem subsquareLo_snoc (S c : Nat) (cs : List Nat) :
    subsquareLo S (cs ++ [c]) = subsquareLo S cs + c * S * f64One / 2 ^ (cs.length + 1) := by
  unfold subsquareLo
  -- the last round reads the new entry `c` …
  rw [List.length_append, List.length_singleton, List.range_succ, List.foldl_append, List.foldl_cons,
    List.foldl_nil, List.getD_eq_getElem?_getD, List.getElem?_append_right (Nat.le_refl _), Nat.sub_self]
  congr 1
  -- … and the rounds before it do not see it
  apply foldl_ext_mem
  intro a t ht
  rw [List.getD_eq_getElem?_getD, List.getD_eq_getElem?_getD, List.getElem?_append_left (List.mem_range.mp ht)]

/-- corner bits oldest first: `subsquareLo` of the reversed list in closed form -/
theorem subsquareLo_reverse (S : Nat) (cs : List Nat) {k : Nat} (h : cs.length + k = 1074) :
    subsquareLo S cs.reverse = S * code cs * 2 ^ k := by
  induction cs generalizing k with
  | nil => rw [List.reverse_nil, subsquareLo_nil]; simp only [code, Nat.mul_zero, Nat.zero_mul]
  | cons c cs ih =>
    rw [List.length_cons] at h
    rw [List.reverse_cons, subsquareLo_snoc, ih (k := k + 1) (by omega), List.length_reverse, mul_f64One_div _ h]
    simp only [code, Nat.pow_succ]
    ring

theorem foldl_stepF_subsquare (S : Nat) (cs : List (Nat × Nat)) (hcs : ∀ c ∈ cs, c.1 ≤ 1 ∧ c.2 ≤ 1)
    (hb : bitLen S + cs.length ≤ 53) (p : Nat × Nat) (hp : InSquareF S p) :
    subsquareLo S (cs.map Prod.fst).reverse ≤ (cs.foldl (stepF S) p).1 ∧
    (cs.foldl (stepF S) p).1 ≤ subsquareLo S (cs.map Prod.fst).reverse + S * f64One / 2 ^ cs.length ∧
    subsquareLo S (cs.map Prod.snd).reverse ≤ (cs.foldl (stepF S) p).2 ∧
    (cs.foldl (stepF S) p).2 ≤ subsquareLo S (cs.map Prod.snd).reverse + S * f64One / 2 ^ cs.length := by
  obtain ⟨k, hk⟩ : ∃ k, cs.length + k = 1074 := ⟨1074 - cs.length, by omega⟩
  have hS := f64OfNat_exact S (lt_of_bitLen (Nat.le_trans (Nat.le_add_right _ _) hb))
  have e0 : emb (0, 0, 0) = (0, 0) := by simp only [emb, Nat.zero_mul, Nat.zero_div]
  have eS : emb (S, S, 0) = (f64OfNat S, f64OfNat S) := by simp only [emb, Nat.pow_zero, Nat.div_one, hS]
  have lo := foldl_stepF_mono S cs (0, 0) p ⟨Nat.zero_le _, Nat.zero_le _⟩
  have hi := foldl_stepF_mono S cs p (f64OfNat S, f64OfNat S) hp
  have in0 : InSquare S (0, 0, 0) := ⟨Nat.zero_le _, Nat.zero_le _⟩
  have inS : InSquare S (S, S, 0) := ⟨Nat.le_of_eq (Nat.mul_one S).symm, Nat.le_of_eq (Nat.mul_one S).symm⟩
  -- both ends are images of exact walks, known in closed form
  rw [← e0, foldl_stepF_emb S cs _ hcs in0 (by rwa [Nat.add_zero]), foldl_stepE] at lo
  rw [← eS, foldl_stepF_emb S cs _ hcs inS (by rwa [Nat.add_zero]), foldl_stepE] at hi
  simp only [emb, Nat.zero_add, Nat.pow_zero, Nat.one_mul, mul_f64One_div _ hk] at lo hi
  -- the goal in the same units `2^k`: `S · code · 2^k` and `(S + S · code) · 2^k`
  rw [subsquareLo_reverse S _ (by rwa [List.length_map]), subsquareLo_reverse S _ (by rwa [List.length_map]),
    mul_f64One_div S hk, ← Nat.add_mul, ← Nat.add_mul, Nat.add_comm _ S, Nat.add_comm _ S]
  exact ⟨lo.1, hi.1, lo.2, hi.2⟩

/-! ## runs of bases pulling a coordinate towards 0 -/

theorem cgrMid_zero_le {S v k : Nat} (hS : S < 2 ^ 53) (hv : v ≤ S * 2 ^ (k + 1)) : cgrMid 0 v ≤ S * 2 ^ k :=
  cgrMid_le_of_le ⟨S, k, hS, rfl⟩ (by rwa [Nat.zero_add, Nat.mul_left_comm, ← Nat.pow_succ'])

/-- one coordinate of the chaos-game walk: corner bits `cs` (oldest first) applied to the marker `x` -/
def walk1 (S : Nat) (x : Nat) (cs : List Nat) : Nat :=
  cs.foldl (fun x c => cgrMid (c * f64OfNat S) x) x

theorem foldl_stepF (S : Nat) (q : List Nat) : ∀ (p : Nat × Nat), (q.map corner).foldl (stepF S) p =
    (walk1 S p.1 (q.map fun b => (corner b).1), walk1 S p.2 (q.map fun b => (corner b).2)) := by
  induction q with
  | nil => intro p; rfl
  | cons b bs ih => intro p; simp only [List.map_cons, List.foldl_cons, ih, walk1, stepF]

theorem walk1_zero_run (S : Nat) (hS : S < 2 ^ 53) (cs : List Nat) : ∀ (k x : Nat), (∀ c ∈ cs, c = 0) →
    x ≤ S * 2 ^ (cs.length + k) → walk1 S x cs ≤ S * 2 ^ k := by
  induction cs with
  | nil => intro k x _ hx; rwa [List.length_nil, Nat.zero_add] at hx
  | cons c cs ih =>
    intro k x hcs hx
    obtain rfl := hcs c List.mem_cons_self
    rw [List.length_cons, Nat.add_right_comm] at hx
    rw [walk1, List.foldl_cons, Nat.zero_mul]
    exact ih k _ (fun d hd => hcs d (List.mem_cons_of_mem _ hd)) (cgrMid_zero_le hS hx)

/-- a run of at most 1074 corner bits 0 confines the coordinate to `[0, S/2^|cs|]` -/
theorem walk1_zero_run_f64One (S : Nat) (hS : S < 2 ^ 53) (cs : List Nat) (x : Nat) (hcs : ∀ c ∈ cs, c = 0)
    (hz : cs.length ≤ 1074) (hx : x ≤ f64OfNat S) : walk1 S x cs * 2 ^ cs.length ≤ S * f64One := by
  obtain ⟨k, hk⟩ := Nat.exists_eq_add_of_le' hz
  rw [f64OfNat_exact S hS] at hx
  rw [f64One_split hk.symm, ← Nat.mul_assoc] at hx ⊢
  exact Nat.mul_le_mul_right _ (walk1_zero_run S hS cs k x hcs (by rwa [Nat.add_comm, Nat.pow_add, ← Nat.mul_assoc]))

theorem cgrF64_zero_run (S : Nat) (p q : List Nat) (l : List (Nat × Nat)) (hS : S < 2 ^ 53)
    (hz : q.length ≤ 1074) (hq : q ≠ []) (h : cgrF64 S (p ++ q) = some l) :
    ((∀ b ∈ q, (corner b).1 = 0) → (l.getLastD (0, 0)).1 * 2 ^ q.length ≤ S * f64One) ∧
    ((∀ b ∈ q, (corner b).2 = 0) → (l.getLastD (0, 0)).2 * 2 ^ q.length ≤ S * f64One) := by
  obtain ⟨st, hst, ha⟩ := cgrF64_last S p q l hq h
  rw [ha, foldl_stepF]
  constructor
  · intro hc
    have := walk1_zero_run_f64One S hS (q.map fun b => (corner b).1) st.1 (List.forall_mem_map.2 hc)
      (by rwa [List.length_map]) hst.1
    rwa [List.length_map] at this
  · intro hc
    have := walk1_zero_run_f64One S hS (q.map fun b => (corner b).2) st.2 (List.forall_mem_map.2 hc)
      (by rwa [List.length_map]) hst.2
    rwa [List.length_map] at this

end KT.Fl
